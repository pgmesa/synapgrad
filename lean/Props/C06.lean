import Props.C06Formulas
import Proofs.SpecNN
import Proofs.SpecNNLoss
/-!
# C06 — Forward results of nn ops / layers / losses match their documented definitions

Statements about `Synap.Kernels` (NN part) and `Synap.LayerArgs`, for every input size, channel
count, batch size and every geometry.
-/
namespace Props.C06
open Synap Synap.Np Synap.Kernels Synap.LayerArgs Proofs.Core Proofs.SpecNN

/-- **Output length `⌊(L + 2p − d(k−1) − 1)/s⌋ + 1`**: exactly the number of window positions that
    fit into the padded input, and no output (rejection) exactly when not even one window fits. -/
theorem conv_out_size (L k s p d : Nat) (hk : 0 < k) (hs : 0 < s) (hd : 0 < d) :
    (convOut L k s p d = none ↔ L + 2 * p < d * (k - 1) + 1) ∧
    (∀ n, convOut L k s p d = some n →
      n = (L + 2 * p - d * (k - 1) - 1) / s + 1 ∧ 0 < n ∧
      ∀ t, t < n ↔ t * s + d * (k - 1) + 1 ≤ L + 2 * p) := by
  constructor
  · rw [← not_iff_not, ← ne_eq, Option.ne_none_iff_exists', not_lt]
    exact ⟨fun ⟨n, hn⟩ => ((Proofs.SpecNN.convOut_eq_some_iff ..).1 hn).2.2.2.1,
      fun h => ⟨_, (Proofs.SpecNN.convOut_eq_some_iff ..).2 ⟨hk, hs, hd, h, rfl⟩⟩⟩
  · intro n hn
    obtain ⟨-, -, -, hfit, rfl⟩ := (Proofs.SpecNN.convOut_eq_some_iff ..).1 hn
    refine ⟨rfl, Nat.succ_pos _, fun t => ?_⟩
    rw [Nat.lt_succ_iff, Nat.le_div_iff_mul_le hs]
    omega

/-- a window offset reads the input at `t·s + a·d − p` when that lies inside, padding otherwise -/
theorem winPos_spec (L s p d t a : Nat) :
    (∀ q, winPos L s p d t a = some q ↔ (p ≤ t * s + a * d ∧ q = t * s + a * d - p ∧ q < L)) := by
  intro q
  rw [Proofs.Adjoint.winPos_eq, Option.ite_none_right_eq_some, Option.some.injEq]
  omega

variable {K : Type} [Field K] [LinearOrder K] [IsStrictOrderedRing K]

/-- **conv1d is a cross-correlation**: `out[n,o,t] = b[o] + Σ_{c,a} w[o,c,a]·xpad[n,c,t·s+a·d]`,
    of shape `(N, C_out, L_out)`. -/
theorem conv1d_is_cross_correlation (x w y : NDArray K) (b : Option (NDArray K)) (s p d : Nat)
    (h : conv1dForward x w b s p d = some y) :
    ∃ n c l co k lo, x.shape = [n, c, l] ∧ w.shape = [co, c, k] ∧ convOut l k s p d = some lo ∧ y.shape = [n, co, lo] ∧
      ∀ bn o t, bn < n → o < co → t < lo →
        y.get [bn, o, t] =
          ((List.range c).flatMap (fun cc => (List.range k).map (fun a =>
            w.get [o, cc, a] * readPad1 x 0 bn cc (winPos l s p d t a)))).sum
          + (match b with | some bv => bv.data.getD o 0 | none => 0) := by
  obtain ⟨n, c, l, co, k, lo, hxs, hws, hlo, -, rfl⟩ := Proofs.Adjoint.conv1d_inv x w y b s p d h
  refine ⟨n, c, l, co, k, lo, hxs, hws, hlo, rfl, fun bn o t hbn ho ht => ?_⟩
  rw [get_ofFn _ _ _ (show validIdx [n, co, lo] [bn, o, t] from ⟨hbn, ho, ht, trivial⟩)]
  cases b with
  | none => exact (add_zero _).symm
  | some bv => rfl

/-- **padding='same' preserves the length** for stride 1 whenever `d·(k−1)` is even (otherwise the
    layer is rejected, since only symmetric padding is available). -/
theorem same_preserves_length (k d L : Nat) (hk : 0 < k) (hd : 0 < d) (hL : 0 < L) :
    ((d * (k - 1)) % 2 = 0 → ∃ p, conv1dArgs k 1 none d = some (k, 1, p, d) ∧ convOut L k 1 p d = some L) ∧
    ((d * (k - 1)) % 2 ≠ 0 → conv1dArgs k 1 none d = none) ∧
    (∀ s, s ≠ 1 → conv1dArgs k s none d = none) := by
  refine ⟨?_, ?_, ?_⟩
  · intro he
    refine ⟨d * (k - 1) / 2, ?_, convOut_same L k d hk hd hL he⟩
    simp [conv1dArgs, he]
  · intro hne
    simp [conv1dArgs, hne]
  · intro s hs
    simp [conv1dArgs, hs]

/-- **padding='same' in 2-d** (C06, layer argument normalisation): whenever `Conv2d`'s arguments with `padding='same'`
    and stride 1 are accepted (int-or-tuple kernel and dilation, positive on both axes), a non-empty `H × W` input
    gives an `H × W` output. -/
theorem same_preserves_size_2d (k d : IT) (H W : Nat) (hH : 0 < H) (hW : 0 < W)
    (hk : 0 < k.bc.1 ∧ 0 < k.bc.2) (hd : 0 < d.bc.1 ∧ 0 < d.bc.2) (g : Geo2)
    (h : conv2dArgs k (.int 1) .same d = some g) : outSize2 g H W = some (H, W) := by
  rw [conv2dArgs_same_eq, Option.ite_none_left_eq_some, not_or, not_not, not_not] at h
  obtain ⟨heven, hg⟩ := h
  obtain rfl := Option.some.inj hg
  unfold outSize2
  rw [convOut_same H _ _ hk.1 hd.1 hH heven.1, convOut_same W _ _ hk.2 hd.2 hW heven.2]

/-- **int-or-tuple arguments and default stride**: an int means the same value on both axes; a
    pooling layer without stride uses its kernel size. -/
theorem pool_default_stride (k : IT) (p d : IT) (k1 p1 d1 : Nat) :
    (pool2dArgs k none p d).s = k.bc ∧ (pool2dArgs k none p d).k = k.bc ∧
    (IT.int k1).bc = (k1, k1) ∧ pool1dArgs k1 none p1 d1 = (k1, k1, p1, d1) := by
  exact ⟨rfl, rfl, rfl, rfl⟩

/-- **Max pooling: padding never wins.**  Whenever a window contains at least one real input
    position, the pooled value is the value at a real position of that window and dominates every
    real position of the window (the −∞ padding is never selected). -/
theorem maxpool_padding_never_wins (x y : NDArray K) (negInf : K) (k s p d : Nat)
    (h : maxPool1dForward x negInf k s p d = some y) (n c l lo : Nat) (hx : x.shape = [n, c, l])
    (hlo : convOut l k s p d = some lo) (bn cc t : Nat) (hbn : bn < n) (hcc : cc < c) (ht : t < lo)
    (hreal : ∃ a q, a < k ∧ winPos l s p d t a = some q) :
    (∃ a q, a < k ∧ winPos l s p d t a = some q ∧ y.get [bn, cc, t] = x.get [bn, cc, q]) ∧
    (∀ a q, a < k → winPos l s p d t a = some q → x.get [bn, cc, q] ≤ y.get [bn, cc, t]) := by
  simp only [maxPool1dForward, Proofs.Adjoint.poolGeom1_eq x k s p d n c l lo hx hlo, Option.bind_eq_bind, Option.bind_some, Option.pure_def,
    Option.some.injEq] at h
  subst h
  rw [get_ofFn _ _ _ (by simp [validIdx, hbn, hcc, ht])]
  simp only [getI, List.getD_cons_zero, List.getD_cons_succ]
  have hvals : ∀ (a : Nat) (w : K),
      ((List.range k).map (fun a => (winPos l s p d t a).map (fun q => x.get [bn, cc, q])))[a]? = some (some w) ↔
        a < k ∧ ∃ q, winPos l s p d t a = some q ∧ x.get [bn, cc, q] = w := by
    intro a w
    simp only [List.getElem?_eq_some_iff, List.length_map, List.length_range, List.getElem_map, List.getElem_range,
      Option.map_eq_some_iff, exists_prop]
  obtain ⟨a0, q0, ha0, hq0⟩ := hreal
  obtain ⟨v, kk, hfm, hk1, hk2⟩ := Proofs.Subgrad.firstMax_spec
    ((List.range k).map (fun a => (winPos l s p d t a).map (fun q => x.get [bn, cc, q])))
    ⟨a0, x.get [bn, cc, q0], (hvals a0 _).2 ⟨ha0, q0, hq0, rfl⟩⟩
  rw [hfm]
  constructor
  · obtain ⟨hlt, q, hq, hv⟩ := (hvals kk v).1 hk1
    exact ⟨kk, q, hlt, hq, hv.symm⟩
  · intro a q ha hq
    exact hk2 a _ ((hvals a _).2 ⟨ha, q, hq, rfl⟩)

/-- **Average pooling counts the padded zeros**: the sum of the window (padding read as 0) divided
    by the full kernel size `k`. -/
theorem avgpool_counts_padding (x y : NDArray K) (k s p d : Nat) (h : avgPool1dForward x k s p d = some y)
    (n c l lo : Nat) (hx : x.shape = [n, c, l]) (hlo : convOut l k s p d = some lo)
    (bn cc t : Nat) (hbn : bn < n) (hcc : cc < c) (ht : t < lo) :
    y.get [bn, cc, t] = ((List.range k).map (fun a => readPad1 x 0 bn cc (winPos l s p d t a))).sum / (k : K) := by
  simp only [avgPool1dForward, Proofs.Adjoint.poolGeom1_eq x k s p d n c l lo hx hlo, Option.bind_eq_bind, Option.bind_some, Option.pure_def,
    Option.some.injEq] at h
  subst h
  rw [get_ofFn _ _ _ (by simp [validIdx, hbn, hcc, ht])]
  simp only [getI, List.getD_cons_zero, List.getD_cons_succ]

/-- **Loss value and reductions**: NLL picks minus the prediction at the label, one value per
    sample (shape `(N,)`). -/
theorem nll_spec (p y : NDArray K) (labels : List Nat) (h : nllForward p labels = some y) :
    ∃ n c, p.shape = [n, c] ∧ y.shape = [n] ∧ labels.length = n ∧
      ∀ i, i < n → y.get [i] = - p.get [i, labels.getD i 0] := by
  obtain ⟨n, c, h1, h2, h3, -, h4⟩ := Proofs.SpecNN.nll_forward_spec p y labels h
  exact ⟨n, c, h1, h3, h2, fun i hi => (h4 i hi).2⟩

/-! ### 2-d convolution and pooling, softmax family, losses: acceptance, shape, entry formula

Statements and proofs in `Proofs/SpecNN.lean` (convolution, pooling) and `Proofs/SpecNNLoss.lean` (softmax family, losses), re-exported here:
* `convOut_eq_some_iff` (in `Proofs/SpecNNLemmas.lean`)   `convOut L k s p d = some n ⇔ 0<k ∧ 0<s ∧ 0<d ∧ d(k−1)+1 ≤ L+2p ∧ n = (L+2p−d(k−1)−1)/s + 1`
* `conv2d_accepts_iff`, `conv2d_is_cross_correlation`   `out[n,o,i,j] = b[o] + Σ_{c,a,b} w[o,c,a,b]·xpad[n,c,i·sH+a·dH, j·sW+b·dW]`
* `pool2d_accepts_iff`, `avgpool2d_counts_padding`, `maxpool2d_padding_never_wins`
* `softmax_accepts_iff`, `softmax_spec` (any axis; positive entries, every fibre sums to 1, equal to the unshifted formula), `log_softmax_spec`;
  the 0-d operand with `dim` 0 / −1 (accepted, as NumPy's reductions accept these two int axes on a 0-d array): `softmax_zero_dim_accepts`,
  `softmax_zero_dim` (value 1), `log_softmax_zero_dim` (value 0), `*_zero_dim_backward`, `*_zero_dim_grad` (gradient 0 for every upstream gradient)
* `mse_spec`, `nll_accepts_iff`, `nll_forward_spec`, `cross_entropy_spec` (`out[n] = −(x[n,label] − log Σ_j exp x[n,j])`) -/
alias convOut_eq_some_iff := Proofs.SpecNN.convOut_eq_some_iff
alias conv2d_accepts_iff := Proofs.SpecNN.conv2d_accepts_iff
alias conv2d_is_cross_correlation := Proofs.SpecNN.conv2d_is_cross_correlation
alias pool2d_accepts_iff := Proofs.SpecNN.pool2d_accepts_iff
alias avgpool2d_counts_padding := Proofs.SpecNN.avgpool2d_counts_padding
alias maxpool2d_padding_never_wins := Proofs.SpecNN.maxpool2d_padding_never_wins
alias softmax_accepts_iff := Proofs.SpecNN.softmax_accepts_iff
alias softmax_spec := Proofs.SpecNN.softmax_spec
alias log_softmax_spec := Proofs.SpecNN.log_softmax_spec
alias softmax_zero_dim_accepts := Proofs.SpecNN.softmax_zero_dim_accepts
alias softmax_zero_dim := Proofs.NL.softmax_zero_dim
alias log_softmax_zero_dim := Proofs.NL.log_softmax_zero_dim
alias softmax_zero_dim_backward := Proofs.NL.softmax_zero_dim_backward
alias softmax_zero_dim_grad := Proofs.NL.softmax_zero_dim_grad
alias log_softmax_zero_dim_backward := Proofs.NL.log_softmax_zero_dim_backward
alias log_softmax_zero_dim_grad := Proofs.NL.log_softmax_zero_dim_grad
alias mse_spec := Proofs.SpecNN.mse_spec
alias nll_accepts_iff := Proofs.SpecNN.nll_accepts_iff
alias nll_forward_spec := Proofs.SpecNN.nll_forward_spec
alias cross_entropy_spec := Proofs.SpecNN.cross_entropy_spec

end Props.C06
