import Proofs.FormulaTie
/-!
# C06 — the forward formulas of the activations and elementwise losses, read from the source on this run, are what the model applies

See `Props/C01Formulas.lean` for the role of `Synap.Gen.*` (regenerated from `cpu_ops.py` by `harness/formulas.py` on every run).
The forward theorems of C06 are about the model kernels; these statements say the model kernels compute exactly the source's formulas.
-/
namespace Props.C06
open Synap Synap.NDArray Synap.Kernels Proofs.FormulaTie Proofs.NL

theorem src_forward_relu (a : NDArray ℝ) : reluForward a = a.map Gen.relu_forward := (lift_relu a a).1
theorem src_forward_relu_is_max (x : ℝ) : Gen.relu_forward x = max 0 x := gen_relu_forward x
theorem src_forward_leaky_relu (a : NDArray ℝ) (s : ℝ) : leakyReluForward a s = a.map (fun x => Gen.leaky_relu_forward x s) := (lift_leaky_relu a a s).1
theorem src_forward_selu (a : NDArray ℝ) (α s : ℝ) : seluForward a α s = a.map (fun x => Gen.selu_forward x α s) := (lift_selu a a α s).1
/-- for `alpha > 0` the source's selu is `scale · (x if x > 0 else alpha (eˣ − 1))` -/
theorem src_forward_selu_closed (x α s : ℝ) (hα : 0 < α) :
    Gen.selu_forward x α s = s * (if 0 < x then x else α * (Real.exp x - 1)) := gen_selu_forward x α s hα
theorem src_forward_tanh (a : NDArray ℝ) : tanhForward a = a.map Gen.tanh_forward := (lift_tanh a a a).1
theorem src_forward_sigmoid (a : NDArray ℝ) : sigmoidForward a = a.map Gen.sigmoid_forward := (lift_sigmoid a a a).1
theorem src_forward_mse (p t : NDArray ℝ) :
    mseForward p t = if p.shape = t.shape then some (zipSame Gen.mse_loss_forward p t) else none := lift_mse p t
theorem src_forward_bce (p t : ℝ) : Gen.bce_loss_forward p t = bceScalar p t ∧ Gen.bce_with_logits_loss_forward p t = bceLogitsScalar p t :=
  ⟨gen_bce_forward p t, gen_bce_logits_forward p t⟩

end Props.C06
