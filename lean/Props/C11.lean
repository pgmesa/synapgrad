import Proofs.ApiLemmas
import Proofs.EffectsSound
import SynapModel.Generated.EffectTable
/-!
# C11 — Forward and backward never modify operands, targets or the caller's gradient (logical core)

In the model, tensor data live in `TState.vals`.  The theorems say that none of applying an op,
back-propagating and zeroing touches existing data.
Aliasing between NumPy arrays (views, the caller's gradient array) cannot be expressed in a
value-level model; it is observed by byte-level snapshots in the check, and carried by the two
*effect tables* at the end of this file — `effectTable` for the NumPy kernels of `cpu_ops.py` /
`conv_tools.py`, `tensorEffectTable` for the op wrappers with their `backward` closures, the methods
of `Tensor` and the constructors (under the entry hypothesis `Separated`; clone / detach return fresh
storage): an abstract program per function, regenerated from the source on every run
(`harness/effects.py`), judged by a may-alias analysis whose soundness w.r.t. a store semantics with
buffer identities is `Proofs.Effects.safe_sound`.
-/
namespace Props.C11
open Synap Synap.Api Synap.Ops Synap.Engine Proofs.Engine

set_option linter.unusedSectionVars false

variable {α : Type} [Zero α] [One α] [Add α] [Sub α] [Mul α] [Div α] [Neg α] [NatCast α]
  [OfScientific α] [LT α] [DecidableLT α] [LE α] [DecidableLE α] [Transc α]

def IsPrefix {β : Type} (a b : List β) : Prop := ∃ t, b = a ++ t

/-- **Applying an op changes no existing tensor**: data, dtypes and the whole graph state of the
    operands (and of every other tensor) are kept; new tensors are appended. -/
theorem apply_preserves (st st' : TState α) (op : Op α) (inputs ks : List Nat)
    (h : Ops.apply st op inputs = some (st', ks)) :
    IsPrefix st.vals st'.vals ∧ IsPrefix st.dtypes st'.dtypes ∧ IsPrefix st.g st'.g ∧ st'.modes = st.modes := by
  obtain ⟨_, _, -, -, -, -, rfl⟩ := Proofs.Api.apply_inv h
  exact ⟨⟨_, rfl⟩, ⟨_, rfl⟩, ⟨_, rfl⟩, rfl⟩

/-
Why `apply_repeatable'` has the hypotheses `hv`, `hd`: the result indices are `st.g.length, st.g.length + 1, …` but the values
are appended to `st.vals`, and nothing in `TState` forces `g`, `vals`, `dtypes` to have the same length: over `st.g = []`,
`st.vals = [⟨[], []⟩, ⟨[1], []⟩]`, `clone` of tensor 0 returns `ks = [0]` (holding `⟨[], []⟩`) the first time and `ks2 = [1]`
(holding `⟨[1], []⟩`) the second.
-/

/-- `apply_repeatable'` without `hv`, `hd` is refuted by a store whose lists are not aligned -/
theorem apply_repeatable_counterexample :
    ¬ ∀ (st st' : TState α) (op : Op α) (inputs ks : List Nat),
      (∀ i ∈ inputs, i < st.vals.length) → Ops.apply st op inputs = some (st', ks) →
      ∃ st2 ks2, Ops.apply st' op inputs = some (st2, ks2) ∧
        ks.map (fun k => st'.vals[k]?) = ks2.map (fun k => st2.vals[k]?) := by
  intro H
  -- both calls evaluate: the first returns index 0, the second index 1, which holds `⟨[1], []⟩`
  obtain ⟨st2, ks2, h2, heq⟩ := H ⟨[], [⟨[], []⟩, ⟨[1], []⟩], [], {}⟩ _ .clone [0] [0]
    (fun i hi => by cases List.mem_singleton.mp hi; exact Nat.zero_lt_two) rfl
  cases h2
  cases heq

/-- **Repeating an operation on unchanged operands gives identical results**: applying the same op to the same
    operands again, in the state the first application left, yields tensors with exactly the same values
    (`hv`, `hd`: the three lists of the store are aligned, as in every store built by the API, see
    `Props.C10.mkTensor_aligned` / `apply_aligned`). -/
theorem apply_repeatable' (st st' : TState α) (op : Op α) (inputs ks : List Nat)
    (hv : st.vals.length = st.g.length) (hd : st.dtypes.length = st.g.length)
    (hin : ∀ i ∈ inputs, i < st.vals.length)
    (h : Ops.apply st op inputs = some (st', ks)) :
    ∃ st2 ks2, Ops.apply st' op inputs = some (st2, ks2) ∧
      ks.map (fun k => st'.vals[k]?) = ks2.map (fun k => st2.vals[k]?) := by
  obtain ⟨ins, outs, h1, h2, hc, rfl, hst⟩ := Proofs.Api.apply_inv h
  -- the second call reads the same operands, dtypes, flags and mode, so it runs the same kernel under the same guard
  have e1 : inputs.mapM (fun i => st'.vals[i]?) = some ins :=
    (Proofs.Api.mapM_opt_congr _ fun i hi => by rw [hst]; exact List.getElem?_append_left (hin i hi)).trans h1
  have e2 : Proofs.Api.dtOf st' inputs = Proofs.Api.dtOf st inputs :=
    congrArg resultDType (Proofs.Api.filterMap_congr_mem _ fun i hi => by
      rw [hst]; exact List.getElem?_append_left (lt_of_lt_of_eq (hin i hi) (hv.trans hd.symm)))
  have e3 : Proofs.Api.rgOf st' inputs = Proofs.Api.rgOf st inputs :=
    congrArg (List.any · id) (List.map_congr_left fun i hi => by
      rw [hst, List.getElem?_append_left (lt_of_lt_of_eq (hin i hi) hv)])
  have e4 : st'.modes = st.modes := by rw [hst]
  refine ⟨_, _, by rw [Proofs.Api.apply_eq, e1, Option.bind_some, h2, Option.bind_some, e2, e3, e4,
    if_neg fun ⟨hne, e⟩ => Bool.false_ne_true ((hc hne).symm.trans e)], ?_⟩
  show _ = (List.range' st'.g.length outs.length).map (fun k => (st'.vals ++ outs.map (·.value))[k]?)
  rw [Proofs.Api.map_getElem?_range'_append _ _ _ _ (by rw [hst]; simp [hv]) (by simp), hst,
    Proofs.Api.map_getElem?_range'_append st.vals _ _ _ hv (by simp)]

/-- **backward changes no tensor data** (of operands, targets, or anything else), no dtype and no
    mode — only gradient buffers, and (`backward_frame`) only those of tensors reachable from the root. -/
theorem backward_preserves_data (st : TState α) (root : Nat) (g : NDArray α) :
    (Api.backward st root g).1.vals = st.vals ∧ (Api.backward st root g).1.dtypes = st.dtypes ∧
    (Api.backward st root g).1.modes = st.modes := by
  obtain ⟨g', h⟩ := Proofs.Api.backward_fst st root g
  rw [h]; exact ⟨rfl, rfl, rfl⟩

/-- the upstream gradient handed to `backward` is a *value*: the root stores (a cast copy of) it
    and later accumulation goes through `+`, which builds a new array -/
theorem root_gradient_is_copied (ns : Graph (NDArray α)) (hw : WFG ns) (root : Nat) (g : NDArray α) (retainAll : Bool)
    (ns' : Graph (NDArray α)) (tr : List TrEv) (h : Engine.backward ns root g retainAll = some (ns', tr))
    (r : Node (NDArray α)) (hr : ns[root]? = some r) (hleaf : r.isLeaf = false) :
    ∃ r', ns'[root]? = some r' ∧ r'.grad = some g := by
  have F := travFacts ns hw root (lt_of_get hr)
  obtain ⟨_, _, _, h⟩ := backward_inv h
  have hr1 := (traverse_root ns hw root (lt_of_get hr)).trans hr
  have hfix := sweep_fixed root retainAll root _ _ _ _ _ (fun v hv => by
      rw [← chOf_skel (ns1_skel ns root g) v]
      -- the root is no operand of a node it reaches: operands are created before results
      exact fun hm => Nat.lt_irrefl _ (Nat.lt_of_lt_of_le (hw.ch v root hm)
        (((F.mem_ord v).mp (List.mem_reverse.mp hv)).le hw))) (fun _ => rfl) h
  rw [ns1_root ns root g hr1, rootVal_nonleaf _ root g hr1 hleaf] at hfix
  exact ⟨_, hfix, rfl⟩

/-- zeroing a gradient touches no data -/
theorem zeroGrad_preserves_data (st st' : TState α) (i : Nat) (h : zeroGrad st i = some st') :
    st'.vals = st.vals ∧ st'.dtypes = st.dtypes := by
  unfold zeroGrad at h
  split at h
  · cases h; exact ⟨rfl, rfl⟩
  · cases h

/-! ### The NumPy kernels never write their operands (aliasing included)

`Synap.Generated.effectTable` holds one effect program per top-level function of `cpu_ops.py` and
`conv_tools.py` (regenerated from the source on every run).  `safe` is the verdict of the
flow-insensitive may-alias analysis of `SynapModel/Effects.lean`: no statement that writes array
memory in place (`x += …`, `x[i] = …`, `out=x`, `np.add.at(x, …)`, `x.fill(…)`, …) goes through a name
that may share memory with a parameter — through views (`reshape`, `.T`, slices, `swapaxes`,
`moveaxis`, `as_strided`, `sliding_window_view`, `np.asarray`, …), tuples, conditional expressions or
the results of other kernels (inlined). -/
section EffectTable
open Synap.Effects Synap.Generated

/-- **No kernel writes through a name that may alias one of its parameters.**  Regenerated from the
    source on every run; an in-place statement on an operand (or on a view of it) makes this fail. -/
theorem kernels_never_write_operands : ∀ k ∈ effectTable, safe k = true := by decide +kernel

/-- every array-valued parameter of every kernel is protected: there is no output parameter -/
theorem kernels_protect_every_parameter : ∀ k ∈ effectTable, allProtected k = true := by decide +kernel

/-- the table is not empty, and it does contain in-place statements (on fresh arrays) to be judged -/
theorem effecttable_nonempty :
    90 ≤ effectTable.length ∧
    20 ≤ (effectTable.flatMap (·.body)).countP (fun s => match s with | .write _ => true | _ => false) := by
  -- counted kernel by kernel: evaluating the concatenation of all bodies first costs as much again
  rw [List.countP_flatMap]
  decide +kernel

/-- **The operands of every kernel are unchanged by the kernel.**  For every kernel of the table,
    every entry state — the parameters bound to any existing buffers, *aliased in any way* (operands
    that are views of one another, the caller's gradient array passed twice, …) — and every
    execution (any order and repetition of the kernel's statements with any oracle choices, which
    covers every path through its branches and loops), the contents of the buffer of every
    parameter after the execution are its contents before. -/
theorem kernel_operands_unchanged (k : Kernel) (hk : k ∈ effectTable)
    (s0 s : State) (he : Entry k s0) (tr : Trace k.body s0 s) :
    ∀ p b, s0.env p = some b → s.mem b = s0.mem b :=
  Proofs.Effects.safe_sound_all k (kernels_never_write_operands k hk)
    (kernels_protect_every_parameter k hk) s0 s he tr

/-! ### The op wrappers, their `backward` closures and the `Tensor` methods

`tensorEffectTable` holds one effect program per op wrapper of `functional.py` / `nn/functional.py`
(the `backward` closure included: closure variables are the wrapper's variables), per method of
`Tensor` and per constructor of `tensor.py`.  Parameters come in triples `t`, `t.data`, `t._grad`
plus one `<upstream>`; protected are `t.data` of every parameter (operands, targets, running
statistics), array-valued parameters themselves, and `<upstream>` — the gradient buffer stored on the
result when its closure runs (for the root: the copy of the caller's gradient; in `Tensor.backward`
the caller's `grad.data` is a protected parameter of its own).  `t._grad` is not protected
(`x._grad += g` is the documented accumulation) but every *re-binding* `t._grad = e` / `t.grad = e`
is translated with an additional write of `t._grad`, so a re-binding to anything that may share
memory with an operand's data or with the upstream gradient makes `safe` fail: some later closure
would accumulate into it.  Likewise `t.data = e` outside the documented running-statistics update. -/

/-- **No wrapper, closure or `Tensor` method writes the data of an operand / target or the upstream
    gradient, and none re-binds a gradient buffer to memory shared with them.** -/
theorem wrappers_never_write_data_or_upstream : ∀ k ∈ tensorEffectTable, safe k = true := by
  decide +kernel

/-- the table is not empty and contains the accumulation writes that are judged -/
theorem tensoreffecttable_nonempty :
    100 ≤ tensorEffectTable.length ∧
    100 ≤ (tensorEffectTable.flatMap (·.body)).countP (fun s => match s with | .write _ => true | _ => false) ∧
    tensorEffectTable.all (fun k => !k.protectedParams.isEmpty) = true := by
  rw [List.countP_flatMap]
  decide +kernel

/-- **Operands, targets and the upstream gradient are unchanged by every wrapper / closure / method.**
    For every entry state in which no protected buffer is shared with a gradient buffer of an
    operand (`Separated`: gradient buffers are created by `zero_` and by `Tensor.backward` as fresh
    arrays, and the first theorem shows that nothing ever re-binds them to shared memory) — the
    protected parameters may alias one another in any way — and every execution. -/
theorem tensor_operands_unchanged (k : Kernel) (hk : k ∈ tensorEffectTable)
    (s0 s : State) (he : Entry k s0) (hsep : Separated k s0) (tr : Trace k.body s0 s) :
    ∀ p ∈ k.protectedParams, ∀ b, s0.env p = some b → s.mem b = s0.mem b :=
  Proofs.Effects.safe_sound k (wrappers_never_write_data_or_upstream k hk) s0 s he hsep tr

/-- the functions the property names: "clone() and detach() return storage independent of their source" -/
def freshResultNames : List String := ["clone_forward", "clone", "Tensor.clone", "Tensor.detach"]

/-- the two look-ups by name in one evaluation: nearly all the work in either is comparing the names of the two
    tables with the given ones, and the kernel turns the tables' string literals into strings once for both -/
theorem named_kernels_judged :
    (freshResultNames.all (fun n =>
      ((effectTable ++ tensorEffectTable).filter (fun k => k.name == n)).length == 1 &&
      ((effectTable ++ tensorEffectTable).filter (fun k => k.name == n)).all returnsFresh) &&
    ["reshape_forward", "reshape", "transpose", "slice", "Tensor.numpy", "clone_backward"].all (fun n =>
      ((effectTable ++ tensorEffectTable).filter (fun k => k.name == n)).any (fun k => !returnsFresh k))) = true := by
  decide +kernel

/-- **clone / detach return fresh storage** (each name occurs exactly once in the tables, and its
    result variable can refer to no buffer that existed on entry) -/
theorem clone_detach_return_fresh :
    freshResultNames.all (fun n =>
      ((effectTable ++ tensorEffectTable).filter (fun k => k.name == n)).length == 1 &&
      ((effectTable ++ tensorEffectTable).filter (fun k => k.name == n)).all returnsFresh) = true :=
  (Bool.and_eq_true_iff.mp named_kernels_judged).1

/-- … while the view operations do return views (the predicate is not vacuous) -/
theorem view_ops_return_views :
    ["reshape_forward", "reshape", "transpose", "slice", "Tensor.numpy", "clone_backward"].all (fun n =>
      ((effectTable ++ tensorEffectTable).filter (fun k => k.name == n)).any (fun k => !returnsFresh k)) = true :=
  (Bool.and_eq_true_iff.mp named_kernels_judged).2

/-- **Storage independence of clone / detach**: after any execution from any entry state, the
    buffer of the result is none of the buffers that existed on entry. -/
theorem clone_detach_storage_independent (k : Kernel) (hk : k ∈ effectTable ++ tensorEffectTable)
    (hn : k.name ∈ freshResultNames)
    (s0 s : State) (he : Entry k s0) (hsep : Separated k s0) (tr : Trace k.body s0 s)
    (b : Nat) (hr : s.env k.ret = some b) : s0.next ≤ b ∧ ∀ p b', s0.env p = some b' → b' ≠ b := by
  have hs : safe k = true :=
    (List.mem_append.mp hk).elim (kernels_never_write_operands k) (wrappers_never_write_data_or_upstream k)
  have hf : returnsFresh k = true :=
    List.all_eq_true.mp (Bool.and_eq_true_iff.mp (List.all_eq_true.mp clone_detach_return_fresh k.name hn)).2 k
      (List.mem_filter.mpr ⟨hk, beq_self_eq_true _⟩)
  exact Proofs.Effects.returnsFresh_sound k hs hf s0 s he hsep tr b hr

end EffectTable

end Props.C11
