import Proofs.FormulaTie
/-!
# C09 — the stability-critical formulas of the source, read on this run, are the formulas the stability theorems are about

`Synap.Gen.*` is regenerated from `cpu_ops.py` by `harness/formulas.py` on every run.  The range / exactness theorems of C09 are
about the model's formulas (`1/(1+e^{-x})`, `tanh`, the clamped selu, the log-sum-exp form of BCE-with-logits); these statements
say those are the formulas the source contains, so a "simplification" of one of them (an unclamped exponential, a rational form of
tanh, a dropped shift) breaks the build of this property.
-/
namespace Props.C09
open Synap Synap.Kernels Proofs.FormulaTie Proofs.NL

theorem src_sigmoid_formula (x : ℝ) : Gen.sigmoid_forward x = 1 / (1 + Real.exp (-x)) := rfl
theorem src_sigmoid_backward_formula (g s : ℝ) : Gen.sigmoid_backward g s = g * s * (1 - s) := rfl
theorem src_tanh_formula (x : ℝ) : Gen.tanh_forward x = Real.tanh x := rfl
theorem src_tanh_backward_formula (g t : ℝ) : Gen.tanh_backward g t = g * (1 - t * t) := rfl
/-- the exponential of the selu gradient is taken of `min(x, 0)`: it cannot overflow -/
theorem src_selu_backward_clamped (g x α s : ℝ) :
    Gen.selu_backward g x α s = s * g * ((if 0 < x then 1 else 0) + α * Real.exp (minS x 0) * (if x ≤ 0 then 1 else 0)) := rfl
theorem src_bce_logits_formula (x y : ℝ) : Gen.bce_with_logits_loss_forward x y = bceLogitsScalar x y := gen_bce_logits_forward x y
theorem src_bce_logits_backward_formula (g x y : ℝ) : Gen.bce_with_logits_loss_backward g x y = g * bceLogitsFactor x y :=
  gen_bce_logits_backward g x y

end Props.C09
