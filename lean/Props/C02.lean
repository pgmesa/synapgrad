import Proofs.Subgradient
import Props.C02Formulas
import Proofs.VJPBce
import Proofs.VJPSoftmax
import Proofs.VJPBatchNorm
import Props.C13
import Props.C16
/-!
# C02 — Backward of every nn op / layer / loss yields the exact vector-Jacobian product

Same notions as C01 (`IsAdjoint`, `PointwiseVJP`, subgradient form at kinks and ties).
Linear / bilinear ops over any commutative ring (field for the averaging ops), pointwise
activations over ℝ with `HasDerivAt`.  Nonlinear ops that couple entries use `Proofs.NL.IsVJPAt`
(the derivative of `t ↦ ⟪F(a + t·v), g⟫` at 0 is `⟪v, B g⟫` for every direction `v` and upstream `g`).
Not proved: the bias gradient of `conv2d` (`conv2dBackward` with the bias flag set).
The well-formedness hypotheses of the operands (`x.WF`, …) are part of the stated interface; several proofs
(every kernel in index-function form, the two BCEs) do not need them, and the `unusedVariables` linter says so.
-/
namespace Props.C02
open Synap Synap.NDArray Synap.Np Synap.Kernels Proofs.Adjoint Proofs.Core Proofs.Calc Proofs.Subgrad

variable {R : Type} [CommRing R]

/-! ### activations (pointwise, diagonal Jacobian; kink = subgradient) -/
theorem relu_vjp : PointwiseVJP reluForward reluBackward (fun x => max 0 x) (fun x => if 0 < x then 1 else 0) (fun x => x ≠ 0) :=
  pointwiseVJP_of_in (fun x => maxS 0 x) (fun gv x => gv * indPos x)
    (fun _ => rfl) (fun _ _ => rfl) (maxS_eq_max 0) (fun _ _ => rfl) (fun _ hx => hasDerivAt_relu hx)

theorem relu_kink_subgradient (y : ℝ) : max 0 y ≥ max 0 (0 : ℝ) + (0 : ℝ) * (y - 0) ∧ (indPos (0 : ℝ) = 0) :=
  ⟨by rw [max_self, zero_mul, add_zero]; exact le_max_left 0 y, if_neg (lt_irrefl _)⟩

/-- leaky relu with *any* slope (also > 1 and negative) -/
theorem leaky_relu_vjp (s : ℝ) : PointwiseVJP (fun a => leakyReluForward a s) (fun g a => leakyReluBackward g a s)
    (fun x => if 0 < x then x else s * x) (fun x => if 0 < x then 1 else s) (fun x => x ≠ 0) :=
  pointwiseVJP_of_in (fun x => if 0 < x then x else s * x) (fun gv x => gv * (indPos x + s * indNonPos x))
    (fun _ => rfl) (fun _ _ => rfl) (fun _ => rfl) (fun gv x => leaky_relu_factor_eq gv x s)
    (fun _ hx => hasDerivAt_leaky_relu s hx)

theorem selu_vjp : PointwiseVJP (fun a => seluForward a seluAlpha seluScale) (fun g a => seluBackward g a seluAlpha seluScale)
    (fun x => (seluScale : ℝ) * (if 0 < x then x else (seluAlpha : ℝ) * (Real.exp x - 1)))
    (fun x => (seluScale : ℝ) * (if 0 < x then 1 else (seluAlpha : ℝ) * Real.exp x)) (fun x => x ≠ 0) :=
  selu_vjp_of_pos _ _ seluAlpha_pos

theorem tanh_vjp : PointwiseVJP tanhForward (fun g a => tanhBackward g (tanhForward a)) Real.tanh (fun x => 1 - Real.tanh x ^ 2)
    (fun _ => True) :=
  pointwiseVJP_of_out Real.tanh (fun gv o => gv * (1 - o * o))
    (fun _ => rfl) (fun _ _ => rfl) (fun _ => rfl) (fun gv x => by ring) (fun x _ => hasDerivAt_tanh x)

theorem sigmoid_vjp : PointwiseVJP sigmoidForward (fun g a => sigmoidBackward g (sigmoidForward a))
    (fun x => 1 / (1 + Real.exp (-x))) (fun x => (1 / (1 + Real.exp (-x))) * (1 - 1 / (1 + Real.exp (-x)))) (fun _ => True) :=
  pointwiseVJP_of_out (fun x => 1 / (1 + Real.exp (-x))) (fun gv o => gv * o * (1 - o))
    (fun _ => rfl) (fun _ _ => rfl) (fun _ => rfl) (fun _ _ => mul_assoc _ _ _) (fun x _ => hasDerivAt_sigmoid_div x)

/-! ### linear (adjoint in each operand), losses -/
theorem linear_vjp (x w y : NDArray R) (hx : x.WF) (hw : w.WF) (h : linearForward x w none = some y) :
    IsAdjoint (R := R) x.shape y.shape (fun v => linearForward v w none) (fun g => (linearBackward g x w none).map (·.1)) ∧
    IsAdjoint (R := R) w.shape y.shape (fun v => linearForward x v none) (fun g => (linearBackward g x w none).map (·.2.1)) :=
  ⟨linear_adj_x x w y h, linear_adj_w x w y h⟩

theorem linear_bias_vjp (x w b y : NDArray R) (hx : x.WF) (hw : w.WF) (hb : b.WF) (h : linearForward x w (some b) = some y)
    (hx2 : x.shape.length = 2) (hw2 : w.shape.length = 2) :
    IsAdjoint (R := R) b.shape y.shape (fun v => linearForward (zeros x.shape) w (some v))
      (fun g => (linearBackward g x w (some b)).bind (·.2.2)) := by
  obtain ⟨wt, hwt, h'⟩ := Option.bind_eq_some_iff.1 h
  have hwtl := (swapaxes_wf w wt 0 1 hwt).2
  have hwt2 : wt.shape.length = 2 := hwtl.trans hw2
  refine (addmm_adj_a b x wt y h' hx2 hwt2).congr ?_ ?_
  · intro v _ _
    simp [linearForward, hwt]
  · intro g hg hgs
    -- as in `linear_adj_x`: the adjoint in the third operand tells that the backward succeeds with a `gwt` of rank 2
    obtain ⟨_, hB2, -, hb2s⟩ := (addmm_adj_c b x wt y h' hx2 hwt2).backward_some g hg hgs
    obtain ⟨⟨gb, gx, gwt⟩, hmb, rfl⟩ := Option.map_eq_some_iff.1 hB2
    obtain ⟨gt, hgt⟩ := swapaxes_some w wt gwt 0 1 hwt ((congrArg List.length hb2s).trans hwtl)
    simp [linearBackward, hwt, hmb, hgt]

/-- MSE: both arguments receive their gradient (the loss is symmetric up to sign) -/
theorem mse_vjp (p t g : NDArray ℝ) (hp : p.WF) (ht : t.WF) (hg : g.WF) (hs : t.shape = p.shape) (hgs : g.shape = p.shape) :
    (∀ a b : ℝ, HasDerivAt (fun x => (x - b) * (x - b)) (2 * (a - b)) a ∧ HasDerivAt (fun x => (a - x) * (a - x)) (-(2 * (a - b))) b) ∧
    ∃ y, mseForward p t = some y ∧ y.shape = p.shape ∧
      (mseBackward g p t).1.shape = p.shape ∧ (mseBackward g p t).2.shape = p.shape ∧
      ∀ i, validIdx p.shape i →
        y.get i = (p.get i - t.get i) * (p.get i - t.get i) ∧
        (mseBackward g p t).1.get i = g.get i * (2 * (p.get i - t.get i)) ∧
        (mseBackward g p t).2.get i = g.get i * (-(2 * (p.get i - t.get i))) := by
  refine ⟨fun a b => ⟨?_, ?_⟩, ?_⟩
  · exact (((hasDerivAt_id' a).sub_const b).mul ((hasDerivAt_id' a).sub_const b)).congr_deriv (by ring)
  · exact (((hasDerivAt_id' b).const_sub a).mul ((hasDerivAt_id' b).const_sub a)).congr_deriv (by ring)
  · have hpt : p.shape = t.shape := hs.symm
    have hpair := zipSame_wf (fun a b => (a, b)) p t hp ht hpt
    refine ⟨_, if_pos hpt, rfl, hgs, hgs, fun i hi => ?_⟩
    have e1 : (mseBackward g p t).1.get i = g.get i * (2 * (p.get i - t.get i)) :=
      (get_zipSame _ g _ hg hpair hgs i (hgs ▸ hi)).trans (by
        rw [get_zipSame _ p t hp ht hpt i hi, Nat.cast_ofNat, mul_assoc])
    exact ⟨get_zipSame _ p t hp ht hpt i hi, e1,
      (get_map0 _ neg_zero _ i).trans ((congrArg Neg.neg e1).trans (mul_neg _ _).symm)⟩

/-- NLL is linear in the log-probabilities: `-p[n, label_n]` -/
theorem nll_vjp (p y : NDArray R) (labels : List Nat) (hp : p.WF) (h : nllForward p labels = some y) :
    IsAdjoint (R := R) p.shape y.shape (fun v => nllForward v labels) (fun g => some (nllBackward g p labels)) := by
  obtain ⟨n, c, hps, hlen, hlab, rfl⟩ := nll_inv p y labels h
  rw [hps, ofFn_shape]
  refine isAdjoint_of_ofFn fun v g hvs hgs => ⟨_, _, nll_some v labels hvs hlen hlab, by rw [nllBackward, hps], ?_⟩
  simp +singlePass only [↓sum_allIdx_cons, ↓sum_allIdx_nil]
  refine Finset.sum_congr rfl fun a ha => ?_
  show -v.get [a, labels.getD a 0] * g.get [a]
    = ∑ b ∈ Finset.range c, v.get [a, b] * (g.get [a] * if labels.getD a 0 = b then -1 else 0)
  rw [Finset.sum_eq_single_of_mem _ (Finset.mem_range.2 (nll_label_lt hlen hlab (Finset.mem_range.1 ha))) fun b _ hb => by
    rw [if_neg (Ne.symm hb), mul_zero, mul_zero], if_pos rfl]
  ring

/-! ### convolution (input, weight; bias for conv1d) and average pooling, every geometry with a window -/
theorem conv1d_vjp (x w y : NDArray R) (s p d : Nat) (hx : x.WF) (hw : w.WF) (h : conv1dForward x w none s p d = some y) :
    IsAdjoint (R := R) x.shape y.shape (fun v => conv1dForward v w none s p d) (fun g => (conv1dBackward g x w false s p d).map (·.1)) ∧
    IsAdjoint (R := R) w.shape y.shape (fun v => conv1dForward x v none s p d) (fun g => (conv1dBackward g x w false s p d).map (·.2.1)) := by
  obtain ⟨n, c, l, co, k, lo, hxs, hws, hlo, -, rfl⟩ := conv1d_inv x w y none s p d h
  refine ⟨?_, ?_⟩
  · rw [hxs, ofFn_shape]
    refine isAdjoint_of_ofFn fun v g hvs hgs => ⟨_, _, conv1dForward_eq v w s p d hvs hws hlo,
      congrArg (Option.map (·.1)) (conv1dBackward_eq g x w false s p d hxs hws hgs), ?_⟩
    rw [sum_allIdx3, sum_allIdx3]
    refine Finset.sum_congr rfl (fun bn _ => ?_)
    exact conv_core_x (Finset.range co) (Finset.range lo) (Finset.range c) (Finset.range k) (Finset.range l)
      (fun t a q => winPos l s p d t a = some q) (fun o cc a => w.get [o, cc, a])
      (fun cc q => v.get [bn, cc, q]) (fun o t => g.get [bn, o, t])
  · rw [hws, ofFn_shape]
    refine isAdjoint_of_ofFn fun v g hvs hgs => ⟨_, _, conv1dForward_eq x v s p d hxs hvs hlo,
      congrArg (Option.map (·.2.1)) (conv1dBackward_eq g x w false s p d hxs hws hgs), ?_⟩
    rw [sum_allIdx3, sum_allIdx3]
    exact conv_core_w (Finset.range n) (Finset.range co) (Finset.range lo) (Finset.range c) (Finset.range k)
      (fun o cc a => v.get [o, cc, a])
      (fun bn cc t a => ∑ q ∈ Finset.range l, if winPos l s p d t a = some q then x.get [bn, cc, q] else 0)
      (fun bn o t => g.get [bn, o, t])

theorem conv1d_bias_vjp (x w b y : NDArray R) (s p d : Nat) (hx : x.WF) (hw : w.WF) (hb : b.WF) (hb1 : b.shape.length = 1)
    (h : conv1dForward x w (some b) s p d = some y) :
    IsAdjoint (R := R) b.shape y.shape (fun v => conv1dForward (zeros x.shape) w (some v) s p d)
      (fun g => (conv1dBackward g x w true s p d).bind (·.2.2)) := by
  obtain ⟨n, c, l, co, k, lo, hxs, hws, hlo, hbsz, rfl⟩ := conv1d_inv x w y (some b) s p d h
  obtain ⟨m, hm⟩ := List.length_eq_one_iff.1 hb1
  obtain rfl : m = co := by simpa [hm, Shape.size] using hbsz b rfl
  rw [hm, ofFn_shape]
  refine isAdjoint_of_ofFn fun v g hvs hgs => ?_
  have hvsz : v.shape.size = m := by rw [hvs]; simp [Shape.size]
  refine ⟨_, _, conv1d_some (zeros x.shape) w (some v) s p d hxs hws hlo fun _ h => Option.some.inj h ▸ hvsz,
    congrArg (Option.bind · (·.2.2)) (conv1dBackward_eq g x w true s p d hxs hws hgs), ?_⟩
  -- every window read of the zero input vanishes: entry `j` of the forward is `v[j₁]`
  simp only [readPad1_zeros, mul_zero, sum_flatMap_range, sum_map_range, Finset.sum_const_zero, zero_add,
    ← get_singleton v m hvs]
  rw [sum_allIdx3, sum_allIdx_cons, Finset.sum_comm]
  refine Finset.sum_congr rfl (fun o _ => ?_)
  simp +singlePass only [↓sum_allIdx_nil, ↓Finset.mul_sum]
  rfl

theorem conv2d_vjp (x w y : NDArray R) (s p d : Nat × Nat) (hx : x.WF) (hw : w.WF) (h : conv2dForward x w none s p d = some y) :
    IsAdjoint (R := R) x.shape y.shape (fun v => conv2dForward v w none s p d) (fun g => (conv2dBackward g x w false s p d).map (·.1)) ∧
    IsAdjoint (R := R) w.shape y.shape (fun v => conv2dForward x v none s p d) (fun g => (conv2dBackward g x w false s p d).map (·.2.1)) := by
  obtain ⟨n, c, hh, ww, co, kh, kw, lh, lw, hxs, hws, hlh, hlw, -, rfl⟩ := conv2d_inv x w y none s p d h
  refine ⟨?_, ?_⟩
  · rw [hxs, ofFn_shape]
    refine isAdjoint_of_ofFn fun v g hvs hgs => ⟨_, _, conv2dForward_eq v w s p d hvs hws hlh hlw,
      congrArg (Option.map (·.1)) (conv2dBackward_eq g x w false s p d hxs hws hgs), ?_⟩
    rw [sum_allIdx4p, sum_allIdx4p]
    refine Finset.sum_congr rfl (fun bn _ => ?_)
    exact conv_core_x (Finset.range co) (Finset.range lh ×ˢ Finset.range lw) (Finset.range c)
      (Finset.range kh ×ˢ Finset.range kw) (Finset.range hh ×ˢ Finset.range ww)
      (reads2 hh ww s p d) (fun o cc a => w.get [o, cc, a.1, a.2]) (fun cc q => v.get [bn, cc, q.1, q.2])
      (fun o t => g.get [bn, o, t.1, t.2])
  · rw [hws, ofFn_shape]
    refine isAdjoint_of_ofFn fun v g hvs hgs => ⟨_, _, conv2dForward_eq x v s p d hxs hvs hlh hlw,
      congrArg (Option.map (·.2.1)) (conv2dBackward_eq g x w false s p d hxs hws hgs), ?_⟩
    rw [sum_allIdx4p, sum_allIdx4p]
    exact conv_core_w (Finset.range n) (Finset.range co) (Finset.range lh ×ˢ Finset.range lw) (Finset.range c)
      (Finset.range kh ×ˢ Finset.range kw)
      (fun o cc a => v.get [o, cc, a.1, a.2])
      (fun bn cc t a => ∑ q ∈ Finset.range hh ×ˢ Finset.range ww,
        if reads2 hh ww s p d t a q then x.get [bn, cc, q.1, q.2] else 0)
      (fun bn o t => g.get [bn, o, t.1, t.2])

theorem avgpool_vjp {K : Type} [Field K] (x y : NDArray K) (k s p d : Nat) (hx : x.WF) (h : avgPool1dForward x k s p d = some y) :
    IsAdjoint (R := K) x.shape y.shape (fun v => avgPool1dForward v k s p d) (fun g => avgPool1dBackward g x k s p d) := by
  obtain ⟨n, c, l, lo, hxs, hlo, rfl⟩ := avgPool1d_inv x y k s p d h
  rw [hxs, ofFn_shape]
  refine isAdjoint_of_ofFn fun v g hvs hgs => ⟨_, _, avgPool1dForward_eq v k s p d hvs hlo,
    avgPool1dBackward_eq g x k s p d hxs hlo, ?_⟩
  rw [sum_allIdx3, sum_allIdx3]
  refine Finset.sum_congr rfl (fun bn _ => Finset.sum_congr rfl (fun cc _ => ?_))
  exact pool_core (Finset.range lo) (Finset.range k) (Finset.range l) (fun t a q => winPos l s p d t a = some q)
    (fun q => v.get [bn, cc, q]) (fun t => g.get [bn, cc, t]) ((k : K))⁻¹

theorem avgpool2d_vjp {K : Type} [Field K] (x y : NDArray K) (k s p d : Nat × Nat) (hx : x.WF) (h : avgPool2dForward x k s p d = some y) :
    IsAdjoint (R := K) x.shape y.shape (fun v => avgPool2dForward v k s p d) (fun g => avgPool2dBackward g x k s p d) := by
  obtain ⟨n, c, hh, ww, lh, lw, hxs, hlh, hlw, rfl⟩ := avgPool2d_inv x y k s p d h
  rw [hxs, ofFn_shape]
  refine isAdjoint_of_ofFn fun v g hvs hgs => ⟨_, _, avgPool2dForward_eq v k s p d hvs hlh hlw,
    avgPool2dBackward_eq g x k s p d hxs hlh hlw, ?_⟩
  rw [sum_allIdx4p, sum_allIdx4p]
  refine Finset.sum_congr rfl (fun bn _ => Finset.sum_congr rfl (fun cc _ => ?_))
  exact pool_core (Finset.range lh ×ˢ Finset.range lw) (Finset.range k.1 ×ˢ Finset.range k.2)
    (Finset.range hh ×ˢ Finset.range ww)
    (reads2 hh ww s p d) (fun q => v.get [bn, cc, q.1, q.2]) (fun t => g.get [bn, cc, t.1, t.2]) (((k.1 * k.2 : Nat) : K))⁻¹

/-! ### max pooling, 1d and 2d: subgradient selection at ties -/
theorem maxpool_vjp_subgradient {K : Type} [Field K] [LinearOrder K] [IsStrictOrderedRing K]
    (x g b : NDArray K) (k s p d : Nat) (n c l lo : Nat) (hx : x.shape = [n, c, l])
    (hlo : convOut l k s p d = some lo) (hb : maxPool1dBackward g x k s p d = some b) :
    b.shape = [n, c, l] ∧ ∀ bn cc q, bn < n → cc < c → q < l →
      b.get [bn, cc, q] = ((List.range lo).map (fun t =>
        let pos := (List.range k).map (fun a => winPos l s p d t a)
        match firstMax (pos.map (fun o => o.map (fun q' => x.get [bn, cc, q']))) with
        | some (_, a) => if pos.getD a none = some q then g.get [bn, cc, t] else 0
        | none => 0)).sum := by
  rw [maxPool1dBackward, poolGeom1_eq x k s p d n c l lo hx hlo] at hb
  obtain rfl := Option.some.inj hb
  refine ⟨rfl, fun bn cc q h1 h2 h3 => ?_⟩
  rw [get_ofFn _ _ _ (show validIdx [n, c, l] [bn, cc, q] from ⟨h1, h2, h3, trivial⟩)]
  rfl

theorem maxpool2d_vjp_subgradient {K : Type} [Field K] [LinearOrder K] [IsStrictOrderedRing K]
    (x g b : NDArray K) (k s p d : Nat × Nat) (n c h w lh lw : Nat) (hx : x.shape = [n, c, h, w])
    (hlh : convOut h k.1 s.1 p.1 d.1 = some lh) (hlw : convOut w k.2 s.2 p.2 d.2 = some lw)
    (hb : maxPool2dBackward g x k s p d = some b) :
    b.shape = [n, c, h, w] ∧ ∀ bn cc qh qw, bn < n → cc < c → qh < h → qw < w →
      b.get [bn, cc, qh, qw] = ((List.range lh).flatMap (fun th => (List.range lw).map (fun tw =>
        let pos := win2 h w k s p d th tw
        match firstMax (pos.map (fun o => o.map (fun (q : Nat × Nat) => x.get [bn, cc, q.1, q.2]))) with
        | some (_, a) => if pos.getD a none = some (qh, qw) then g.get [bn, cc, th, tw] else 0
        | none => 0))).sum := by
  rw [maxPool2dBackward, poolGeom2_eq x k s p d n c h w lh lw hx hlh hlw] at hb
  obtain rfl := Option.some.inj hb
  refine ⟨rfl, fun bn cc qh qw h1 h2 h3 h4 => ?_⟩
  rw [get_ofFn _ _ _ (show validIdx [n, c, h, w] [bn, cc, qh, qw] from ⟨h1, h2, h3, h4, trivial⟩)]
  rfl

/-- the position `firstMax` selects is a real (never a padding) entry that dominates the window -/
theorem maxpool_selection_is_argmax {K : Type} [Field K] [LinearOrder K] [IsStrictOrderedRing K]
    (vals : List (Option K)) (hreal : ∃ (k : Nat) (v : K), vals[k]? = some (some v)) :
    ∃ v k, firstMax vals = some (v, k) ∧ vals[k]? = some (some v) ∧ ∀ (j : Nat) (w : K), vals[j]? = some (some w) → w ≤ v :=
  firstMax_spec vals hreal

/-! ### unfold / fold and dropout: transposes of each other / of the same mask -/
theorem unfold_fold_vjp (g : ConvTools.Geom) (x y : NDArray R) (hx : x.WF) (hs : x.shape = [g.n, g.c, g.h, g.w])
    (lh lw : Nat) (ho : g.out = some (lh, lw)) (hy : y.WF) (hys : y.shape = [g.n, g.rows, lh * lw])
    (hk : 0 < g.k.1 ∧ 0 < g.k.2) :
    ∃ u v, ConvTools.im2colSpec g x 0 = some u ∧ ConvTools.col2imSpec g y = some v ∧ dot u y = dot x v :=
  Props.C16.col2im_adjoint_of_im2col g x y hx hs lh lw ho hy hys hk

theorem dropout_vjp {K : Type} [Field K] [LinearOrder K] [IsStrictOrderedRing K] (p : K) (vs gs us : List K)
    (h1 : vs.length = us.length) (h2 : gs.length = us.length) :
    (List.zipWith (· * ·) (Synap.Layers.dropout p true vs us) gs).sum
      = (List.zipWith (· * ·) vs (Synap.Layers.dropoutBackward p gs us)).sum :=
  Props.C13.dropout_backward_same_mask p vs gs us h1 h2

/-! ### softmax family along any axis, cross-entropy: full (dense-Jacobian) VJP -/
open Proofs.NL

theorem softmax_vjp (a s : NDArray ℝ) (axis : Int) (ha : a.WF) (h : softmaxForward a axis = some s) :
    IsVJPAt (fun x => softmaxForward x axis) a a.shape (fun g => softmaxBackward g s axis) :=
  Proofs.NL.softmax_vjp a s axis ha h

theorem log_softmax_vjp (a ls : NDArray ℝ) (axis : Int) (ha : a.WF) (h : logSoftmaxForward a axis = some ls) :
    IsVJPAt (fun x => logSoftmaxForward x axis) a a.shape (fun g => logSoftmaxBackward g ls axis) :=
  Proofs.NL.log_softmax_vjp a ls axis ha h

theorem cross_entropy_vjp (x y : NDArray ℝ) (labels : List Nat) (hx : x.WF) (h : crossEntropyForward x labels = some y) :
    IsVJPAt (fun z => crossEntropyForward z labels) x y.shape (fun g => crossEntropyBackward g x labels) := by
  rw [crossEntropyForward_eq] at h
  obtain ⟨hlen, h⟩ := Option.ite_none_right_eq_some.1 h
  obtain ⟨ls, hls, hnll⟩ := Option.bind_eq_some_iff.1 h
  obtain ⟨hlsw, hlss⟩ := logSoftmaxForward_wf x ls 1 hls
  refine IsVJPAt.congr (IsVJPAt.comp_adjoint (log_softmax_vjp x ls 1 hx hls)
    ((nll_vjp ls y labels hlsw hnll).of_shape_eq hlss rfl)) (fun z hz => ?_)
    (fun g _ _ => (crossEntropyBackward_eq x y ls g labels hls hnll).symm)
  have : z.shape.length = 2 := hz ▸ hlen
  rw [crossEntropyForward_eq, if_pos this]

/-- **softmax of a 0-d operand along dim 0 / −1** (accepted, as `np.max` / `np.sum` accept these two int axes on a 0-d
    array): the value is `1`, the gradient is `0` for every upstream gradient, and that is the VJP -/
theorem softmax_zero_dim_vjp (a g : NDArray ℝ) (ha : a.WF) (has : a.shape = []) (d : Int) (hd : d = 0 ∨ d = -1) :
    softmaxForward a d = some ⟨[], [1]⟩ ∧ softmaxBackward g ⟨[], [1]⟩ d = some ⟨[], [0]⟩ ∧
    IsVJPAt (fun x => softmaxForward x d) a [] (fun g => softmaxBackward g ⟨[], [1]⟩ d) :=
  ⟨Proofs.NL.softmax_zero_dim a has d hd,
    Proofs.NL.softmax_zero_dim_grad a _ g has d hd (Proofs.NL.softmax_zero_dim a has d hd),
    by have h := Proofs.NL.softmax_vjp a _ d ha (Proofs.NL.softmax_zero_dim a has d hd); rwa [has] at h⟩

/-- **log_softmax of a 0-d operand along dim 0 / −1**: the value is `0`, the gradient is `0`, and that is the VJP -/
theorem log_softmax_zero_dim_vjp (a g : NDArray ℝ) (ha : a.WF) (has : a.shape = []) (d : Int) (hd : d = 0 ∨ d = -1) :
    logSoftmaxForward a d = some ⟨[], [0]⟩ ∧ logSoftmaxBackward g ⟨[], [0]⟩ d = some ⟨[], [0]⟩ ∧
    IsVJPAt (fun x => logSoftmaxForward x d) a [] (fun g => logSoftmaxBackward g ⟨[], [0]⟩ d) :=
  ⟨Proofs.NL.log_softmax_zero_dim a has d hd,
    Proofs.NL.log_softmax_zero_dim_grad a _ g has d hd (Proofs.NL.log_softmax_zero_dim a has d hd),
    by have h := Proofs.NL.log_softmax_vjp a _ d ha (Proofs.NL.log_softmax_zero_dim a has d hd); rwa [has] at h⟩

/-- non-vacuity: the hypotheses of `softmax_vjp` are met by a concrete 2×2 input -/
example : ∃ s, softmaxForward (⟨[2, 2], [1, 2, 3, 4]⟩ : NDArray ℝ) 1 = some s :=
  ⟨_, Proofs.NL.sm_softmaxForward_eq _ 1 1 rfl (by decide)⟩

/-- … and by a 0-d input with `dim` 0 / −1 (NumPy's reductions accept these two int axes on a 0-d array): there the
    forward is the constant `1` (`0` for log_softmax) and the backward returns `0` for every upstream gradient -/
example : softmaxForward (⟨[], [3]⟩ : NDArray ℝ) 0 = some ⟨[], [1]⟩ ∧
    softmaxBackward (⟨[], [5]⟩ : NDArray ℝ) ⟨[], [1]⟩ 0 = some ⟨[], [0]⟩ :=
  ⟨Proofs.NL.softmax_zero_dim _ rfl 0 (Or.inl rfl),
    Proofs.NL.softmax_zero_dim_grad ⟨[], [3]⟩ _ _ rfl 0 (Or.inl rfl) (Proofs.NL.softmax_zero_dim _ rfl 0 (Or.inl rfl))⟩
example : logSoftmaxForward (⟨[], [3]⟩ : NDArray ℝ) (-1) = some ⟨[], [0]⟩ ∧
    logSoftmaxBackward (⟨[], [5]⟩ : NDArray ℝ) ⟨[], [0]⟩ (-1) = some ⟨[], [0]⟩ :=
  ⟨Proofs.NL.log_softmax_zero_dim _ rfl (-1) (Or.inr rfl),
    Proofs.NL.log_softmax_zero_dim_grad ⟨[], [3]⟩ _ _ rfl (-1) (Or.inr rfl)
      (Proofs.NL.log_softmax_zero_dim _ rfl (-1) (Or.inr rfl))⟩

/-! ### binary cross-entropies (pointwise in the prediction / logit for a fixed target) -/
/-- BCE: off the forward clamp level and where both logarithms have non-zero arguments, the factor the backward
    kernel uses is the derivative of the scalar the forward kernel evaluates (ε-guards included, as implemented) -/
theorem bce_scalar_deriv (pv tv : ℝ) (h1 : pv + (epsilon : ℝ) ≠ 0) (h2 : 1 - pv + (epsilon : ℝ) ≠ 0)
    (hc : -(tv * Real.log (pv + (epsilon : ℝ)) + (1 - tv) * Real.log (1 - pv + (epsilon : ℝ))) ≠ -(Real.log (epsilon : ℝ))) :
    HasDerivAt (fun x => bceScalar x tv) (bceFactor pv tv) pv :=
  Proofs.NL.bce_scalar_deriv pv tv h1 h2 hc

theorem bce_vjp (p t g : NDArray ℝ) (hp : p.WF) (ht : t.WF) (hg : g.WF) (hs : t.shape = p.shape) (hgs : g.shape = p.shape) :
    ∃ y b, bceForward p t = some y ∧ bceBackward g p t = some b ∧ y.shape = p.shape ∧ b.shape = p.shape ∧
      ∀ i, validIdx p.shape i →
        y.get i = bceScalar (p.get i) (t.get i) ∧ b.get i = bceFactor (p.get i) (t.get i) * g.get i := by
  rw [bceForward_eq p t p.shape (hs ▸ broadcastShapes_self _), bceBackward, bcast2_same _ p t hs]
  simp only [Option.bind_eq_bind, Option.bind_some]
  rw [bcast2_same _ (ofFn p.shape _) g hgs, ofFn_shape]
  refine ⟨_, _, rfl, rfl, rfl, rfl, fun i hi => ⟨?_, ?_⟩⟩
  · rw [get_ofFn _ _ _ hi, hs, bcastIdx_self _ _ hi]
  · rw [get_ofFn _ _ _ hi, get_ofFn _ _ _ hi]
    rfl

/-- BCE with logits: the stabilised forward is smooth with derivative `(1 − y) − 1/(1 + eˣ)` everywhere … -/
theorem bce_logits_scalar_deriv (xv yv : ℝ) :
    HasDerivAt (fun x => bceLogitsScalar x yv) ((1 - yv) - 1 / (1 + Real.exp xv)) xv :=
  Proofs.NL.bce_logits_scalar_deriv xv yv

/-- … and the factor of the backward kernel, which keeps an `ε` in one denominator, is within `ε = 1e-12` of it
    (a bounded deviation of the implementation, stated rather than hidden) -/
theorem bce_logits_factor_within_eps (xv yv : ℝ) :
    |bceLogitsFactor xv yv - ((1 - yv) - 1 / (1 + Real.exp xv))| ≤ (epsilon : ℝ) :=
  Proofs.NL.bce_logits_factor_close xv yv

theorem bce_logits_vjp (x y g : NDArray ℝ) (hx : x.WF) (hy : y.WF) (hg : g.WF) (hs : y.shape = x.shape) (hgs : g.shape = x.shape) :
    ∃ l b, bceLogitsForward x y = some l ∧ bceLogitsBackward g x y = some b ∧ l.shape = x.shape ∧ b.shape = x.shape ∧
      ∀ i, validIdx x.shape i →
        l.get i = bceLogitsScalar (x.get i) (y.get i) ∧ b.get i = g.get i * bceLogitsFactor (x.get i) (y.get i) := by
  rw [bceLogitsForward, bceLogitsBackward, bcast2_same _ x y hs, bcast2_same _ x y hs]
  simp only [Option.bind_eq_bind, Option.bind_some]
  rw [bcast2_same _ g (ofFn x.shape _) hgs.symm, hgs]
  refine ⟨_, _, rfl, rfl, rfl, rfl, fun i hi => ⟨?_, ?_⟩⟩
  · rw [get_ofFn _ _ _ hi]; rfl
  · rw [get_ofFn _ _ _ hi, get_ofFn _ _ _ hi]; rfl

/-! ### batch normalisation: input gradient in eval mode (constant statistics) and in training mode (statistics are the
    batch mean and biased variance of the input itself: the three-term formula), scale and shift gradients -/
theorem batch_norm_eval_vjp (x : NDArray ℝ) (gamma beta : Option (NDArray ℝ)) (mean var : Nat → ℝ) (eps : ℝ) (hx : x.WF) :
    IsVJPAt (fun z => some (bnForward z gamma beta mean var eps)) x x.shape
      (fun g => some (bnBackward g x gamma beta.isSome false mean var eps).1) :=
  IsVJPAt.of_entries hx
    (fun z i => (z i - mean (getI i 1)) / Real.sqrt (var (getI i 1) + eps) * bn_gam gamma (getI i 1)
      + bn_bet beta (getI i 1))
    (fun v i => v.get i / Real.sqrt (var (getI i 1) + eps) * bn_gam gamma (getI i 1))
    (fun g i => g.get i * bn_gam gamma (getI i 1) / Real.sqrt (var (getI i 1) + eps))
    (fun v t _ _ => congrArg some (bn_forward_eq _ gamma beta mean var eps))
    (fun g _ _ => by rw [bn_backward_dx_eq]; rfl)
    (fun v _ _ i _ => ((((hasDerivAt_line _ _).sub_const _).div_const _).mul_const _).add_const _)
    (fun v g _ _ _ _ => congrArg List.sum (List.map_congr_left fun i _ => by ring))

theorem batch_norm_train_vjp (x : NDArray ℝ) (gamma beta : Option (NDArray ℝ)) (eps : ℝ) (heps : 0 < eps) (hx : x.WF)
    (hrank : 2 ≤ x.shape.length) :
    IsVJPAt (fun z => some (bnForward z gamma beta (batchMean z) (batchVar z) eps)) x x.shape
      (fun g => some (bnBackward g x gamma beta.isSome true (batchMean x) (batchVar x) eps).1) := by
  refine IsVJPAt.of_entries hx
    (fun z i => (z i - chanMean (chanIdx x.shape (getI i 1)) z) / Real.sqrt (chanVar (chanIdx x.shape (getI i 1)) z + eps)
      * bn_gam gamma (getI i 1) + bn_bet beta (getI i 1))
    _ _
    (fun v t _ _ => by rw [bn_forward_eq]; simp only [batchMean_eq, batchVar_eq]; rfl)
    (fun g _ _ => congrArg some (bn_backward_dx_eq g x gamma _ true _ _ eps))
    (fun v _ _ i _ => ((bn_hasDerivAt_xhat _ x.get v.get eps i _ _ (batchMean_eq x _) (batchVar_eq x _)
      (batchVar_add_pos x _ eps heps)).mul_const _).add_const _)
    (fun v g _ _ _ _ => ?_)
  simp only [↓reduceIte]
  -- both sums are split by channel; within a channel the two sides are `bn_chan_identity`
  rw [bn_sum_chan _ hrank (fun (i : Idx) (c : Nat) => v.get i *
      bnTrainGrad (chanIdx x.shape c) (fun k => g.get k * bn_gam gamma (getI k 1)) x.get (batchMean x c)
        (Real.sqrt (batchVar x c + eps)) (((chanIdx x.shape c).length : Nat) : ℝ)
        ((batchVar x c + eps) ^ (-((3 : ℝ) / 2))) i),
    bn_sum_chan _ hrank (fun (i : Idx) (c : Nat) => bnXhatDeriv (chanIdx x.shape c) x.get v.get (batchMean x c)
      (Real.sqrt (batchVar x c + eps)) (((chanIdx x.shape c).length : Nat) : ℝ) i * bn_gam gamma c * g.get i)]
  refine congrArg List.sum (List.map_congr_left fun c _ => ?_)
  rw [← bn_chan_identity _ _ _ _ _ _ _ _ (bn_rpow_neg_three_halves _ (batchVar_add_pos x c eps heps))]
  refine congrArg List.sum (List.map_congr_left fun i hi => ?_)
  rw [((bn_mem_chanIdx _ _ _).1 hi).2]
  ring

theorem batch_norm_gamma_vjp (x gm : NDArray ℝ) (beta : Option (NDArray ℝ)) (useBatch : Bool) (mean var : Nat → ℝ) (eps : ℝ) (hx : x.WF)
    (hrank : 2 ≤ x.shape.length) (hgm : gm.WF) (hgs : gm.shape = [x.shape.getD 1 0]) :
    IsVJPAt (fun gm' => some (bnForward x (some gm') beta mean var eps)) gm x.shape
      (fun g => (bnBackward g x (some gm) beta.isSome useBatch mean var eps).2.1) := by
  refine IsVJPAt.of_entries hgm
    (fun z i => (x.get i - mean (getI i 1)) / Real.sqrt (var (getI i 1) + eps) * z [getI i 1] + bn_bet beta (getI i 1))
    _
    (fun g j => ((chanIdx x.shape (getI j 0)).map (fun i => g.get i *
        ((x.get i - mean (getI i 1)) / Real.sqrt (var (getI i 1) + eps)))).sum)
    (fun v t hv hvs => congrArg some ((bn_forward_eq ..).trans (Proofs.ConvTools.ofFn_congr _ _ _ fun i hi => ?_)))
    (fun g _ _ => by rw [hgs]; exact bn_backward_dgamma_eq g x gm _ _ mean var eps)
    (fun v _ _ i _ => ((hasDerivAt_line _ _).const_mul _).add_const _)
    (fun v g _ _ _ _ => ?_)
  · rw [bn_gam, bn_data_getD (line gm v t) _ hgs (line_wf gm v t hgm hv hvs) (getI i 1) (validIdx_getD _ _ 1 hi hrank)]
  · rw [hgs, bn_sum_param _ hrank]
    exact congrArg List.sum (List.map_congr_left fun i _ => by ring)

theorem batch_norm_beta_vjp (x bt : NDArray ℝ) (gamma : Option (NDArray ℝ)) (useBatch : Bool) (mean var : Nat → ℝ) (eps : ℝ) (hx : x.WF)
    (hrank : 2 ≤ x.shape.length) (hbt : bt.WF) (hbs : bt.shape = [x.shape.getD 1 0]) :
    IsVJPAt (fun bt' => some (bnForward x gamma (some bt') mean var eps)) bt x.shape
      (fun g => (bnBackward g x gamma true useBatch mean var eps).2.2) := by
  refine IsVJPAt.of_entries hbt
    (fun z i => (x.get i - mean (getI i 1)) / Real.sqrt (var (getI i 1) + eps) * bn_gam gamma (getI i 1) + z [getI i 1])
    _
    (fun g j => ((chanIdx x.shape (getI j 0)).map g.get).sum)
    (fun v t _ _ => congrArg some ((bn_forward_eq ..).trans (Proofs.ConvTools.ofFn_congr _ _ _ fun i hi => ?_)))
    (fun g _ _ => by rw [hbs]; exact bn_backward_dbeta_eq g x gamma _ mean var eps)
    (fun v _ _ i _ => (hasDerivAt_line _ _).const_add _)
    (fun v g _ _ _ _ => ?_)
  · rw [bn_bet, ← get_singleton (line bt v t) _ hbs]
  · rw [hbs, bn_sum_param _ hrank]

end Props.C02
