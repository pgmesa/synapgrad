import Proofs.EngineLogicFlags
/-!
# C07 — the decision logic of `tensor.py`, read from the source on this run, is the logic of the engine model

`Synap.Gen.Engine.*` (file `SynapModel/Generated/EngineLogic.lean`) is regenerated from `/repo/synapgrad/tensor.py` by
`harness/engine_logic.py` every time a check runs.  The statements (with their proofs) are in `Proofs/EngineLogicFlags.lean`
(namespace `Proofs.EngineLogicTie`); they are re-exported here because they belong to this property: the creation rule,
the flag setters and the grad-mode contexts.
-/
namespace Props.C07

/-- `Tensor.__init__`: flag = requires_grad and gradient mode; float guard; children kept only with the flag -/
theorem src_creation_rule_is_model : type_of% @Proofs.EngineLogicTie.mkTensor_uses_src := @Proofs.EngineLogicTie.mkTensor_uses_src

/-- property `is_leaf` -/
theorem src_is_leaf_is_model : type_of% @Proofs.EngineLogicTie.is_leaf_is_model := @Proofs.EngineLogicTie.is_leaf_is_model

/-- the `requires_grad` setter: only on leaves, only floats may be switched on -/
theorem src_requires_grad_setter_is_model : type_of% @Proofs.EngineLogicTie.setRequiresGrad_uses_src := @Proofs.EngineLogicTie.setRequiresGrad_uses_src

/-- `retain_grad()` guard -/
theorem src_retain_grad_is_model : type_of% @Proofs.EngineLogicTie.retainGrad_uses_src := @Proofs.EngineLogicTie.retainGrad_uses_src

/-- `no_grad()` / `retain_grads()` constructors record the mode -/
theorem src_ctx_new_is_model : type_of% @Proofs.EngineLogicTie.ctxNew_uses_src := @Proofs.EngineLogicTie.ctxNew_uses_src

/-- `__enter__` of both contexts -/
theorem src_ctx_enter_is_model : type_of% @Proofs.EngineLogicTie.ctxEnter_uses_src := @Proofs.EngineLogicTie.ctxEnter_uses_src

/-- `__exit__` of both contexts restores `prev` (also when leaving by exception: same method) -/
theorem src_ctx_exit_is_model : type_of% @Proofs.EngineLogicTie.ctxExit_uses_src := @Proofs.EngineLogicTie.ctxExit_uses_src

/-- `a += b` dispatches to the binary operator (Tensor defines no in-place operator method): the flag rule covers augmented statements -/
theorem src_no_inplace_operator : type_of% @Proofs.EngineLogicTie.tensor_defines_no_inplace_operator := @Proofs.EngineLogicTie.tensor_defines_no_inplace_operator

/-- no attribute hook or `__new__` bypasses the flag setters -/
theorem src_no_attribute_hook : type_of% @Proofs.EngineLogicTie.tensor_defines_no_attribute_hook := @Proofs.EngineLogicTie.tensor_defines_no_attribute_hook

/-- `nn.Parameter` is created by `Tensor.__init__`: the creation rule applies to parameters -/
theorem src_parameter_created_by_tensor_init : type_of% @Proofs.EngineLogicTie.parameter_is_created_by_tensor_init := @Proofs.EngineLogicTie.parameter_is_created_by_tensor_init

end Props.C07
