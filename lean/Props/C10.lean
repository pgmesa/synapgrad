import Proofs.ApiLemmas
/-!
# C10 — Results and gradients keep the operand's floating dtype and exact shape (logical core)

Statements about `Synap.Ops` / `Synap.Api`.  The float32-vs-float64 *value* agreement clause of the
property is a floating-point fact and is observed by the check, not proved.
-/
namespace Props.C10
open Synap Synap.Api Synap.Ops Synap.Engine

theorem resultDType_f64 {dts : List DType} (h : .f64 ∈ dts) : resultDType dts = .f64 := by
  simp only [resultDType, List.contains_iff_mem, h, if_true]

theorem resultDType_f32 {dts : List DType} (h64 : .f64 ∉ dts) (h32 : .f32 ∈ dts) : resultDType dts = .f32 := by
  simp only [resultDType, List.contains_iff_mem, h64, h32, if_true, if_false]

/-- **float32 operands give float32, float64 operands give float64** — whatever the rank of the
    result (the dtype rule does not look at shapes, so 0-d results are included); integer label
    operands do not change it. -/
theorem result_dtype_preserved (dts : List DType) :
    (dts ≠ [] → (∀ d ∈ dts, d = .f32) → resultDType dts = .f32) ∧
    (dts ≠ [] → (∀ d ∈ dts, d = .f64) → resultDType dts = .f64) ∧
    ((∀ d ∈ dts, d ≠ .f64) → (.f32 ∈ dts) → resultDType dts = .f32) ∧
    ((.f64 ∈ dts) → resultDType dts = .f64) := by
  have mem : ∀ x : DType, dts ≠ [] → (∀ d ∈ dts, d = x) → x ∈ dts := fun x hne hall => by
    obtain ⟨d, hd⟩ := List.exists_mem_of_ne_nil dts hne
    exact hall d hd ▸ hd
  exact ⟨fun hne hall => resultDType_f32 (fun hm => nomatch hall _ hm) (mem _ hne hall),
    fun hne hall => resultDType_f64 (mem _ hne hall),
    fun hall h32 => resultDType_f32 (fun hm => hall _ hm rfl) h32, resultDType_f64⟩

set_option linter.unusedSectionVars false

variable {α : Type} [Zero α] [One α] [Add α] [Sub α] [Mul α] [Div α] [Neg α] [NatCast α]
  [OfScientific α] [LT α] [DecidableLT α] [LE α] [DecidableLE α] [Transc α]

/-
Why `apply_result_dtype'` has the hypothesis `hd`: `mkTensor` returns the index `st.g.length` but appends to `st.dtypes`, and
nothing in `TState` forces `g`, `vals`, `dtypes` to have the same length: over `st.g = [n₀]`, `st.dtypes = [f32, i8]`, `neg` of
tensor 0 returns `ks = [1]` and `st'.dtypes = [f32, i8, f32]`, so `st'.dtypes[1]? = some i8`, not `some (resultDType [f32])`.
-/

/-- `apply_result_dtype'` without `hd` is refuted by a store whose lists are not aligned -/
theorem apply_result_dtype_counterexample :
    ¬ ∀ (st st' : TState α) (op : Op α) (inputs ks : List Nat),
      Ops.apply st op inputs = some (st', ks) →
      ∀ k ∈ ks, st'.dtypes[k]? = some (resultDType (inputs.filterMap (fun i => st.dtypes[i]?))) := by
  intro H
  let n0 : Node (NDArray α) :=
    { children := [], reqGrad := false, back := none, retain := false, grad := none, zero := ⟨[], []⟩ }
  let st0 : TState α := { g := [n0], vals := [⟨[], []⟩], dtypes := [.f32, .i8], modes := {} }
  cases H st0 _ .neg [0] [1] rfl 1 List.mem_cons_self

/-- **Every tensor an op creates carries the dtype `resultDType` of its operands**, on a store whose dtype list is aligned
    with the graph (`hd`; every store the API builds is: `mkTensor_aligned`, `apply_aligned`). -/
theorem apply_result_dtype' (st st' : TState α) (op : Op α) (inputs ks : List Nat)
    (hd : st.dtypes.length = st.g.length)
    (h : Ops.apply st op inputs = some (st', ks)) :
    ∀ k ∈ ks, st'.dtypes[k]? = some (resultDType (inputs.filterMap (fun i => st.dtypes[i]?))) := by
  obtain ⟨_, outs, -, -, -, rfl, rfl⟩ := Proofs.Api.apply_inv h
  intro k hk
  rw [List.mem_range'_1, ← hd] at hk
  exact (List.getElem?_append_right hk.1).trans
    (List.getElem?_replicate.trans (if_pos (Nat.sub_lt_left_of_lt_add hk.1 hk.2)))

/-
`scalar_operand_dtype'` has the hypothesis `hd` for the same reason: over `st.g = []`, `st.dtypes = [f32, f64]`, `like = 1` the
call returns `k = 0` and `st'.dtypes = [f32, f64, f64]`, so `st'.dtypes[0]? = some f32`, not `some f64`.
-/

/-- `scalar_operand_dtype'` without `hd` is refuted by a store whose lists are not aligned -/
theorem scalar_operand_dtype_counterexample (v : α) :
    ¬ ∀ (st st' : TState α) (like k : Nat) (dt : DType),
      st.dtypes[like]? = some dt → scalarOperand st v like = some (st', k) →
      st'.dtypes[k]? = some dt ∧ ∃ n, st'.g[k]? = some n ∧ n.reqGrad = false := by
  intro H
  let st0 : TState α := { g := [], vals := [], dtypes := [.f32, .f64], modes := {} }
  cases (H st0 _ 1 0 .f64 rfl rfl).1

/-- **A Python scalar operand takes the dtype of the tensor it meets** (`hd`: the dtype list is aligned with the graph). -/
theorem scalar_operand_dtype' (st st' : TState α) (v : α) (like k : Nat) (dt : DType)
    (hd : st.dtypes.length = st.g.length)
    (hl : st.dtypes[like]? = some dt) (h : scalarOperand st v like = some (st', k)) :
    st'.dtypes[k]? = some dt ∧ ∃ n, st'.g[k]? = some n ∧ n.reqGrad = false := by
  unfold scalarOperand at h
  rw [hl] at h
  obtain ⟨_, rfl, rfl⟩ := Proofs.Api.mkTensor_inv h
  exact ⟨hd ▸ List.getElem?_concat_length, _, List.getElem?_concat_length, rfl⟩

/-- the invariant: every gradient buffer has the shape of its tensor (`zero` is `zeros_like(data)`) -/
def GradShapesOK (ns : Graph (NDArray α)) : Prop :=
  ∀ (i : Nat) (n : Node (NDArray α)) (g : NDArray α), ns[i]? = some n → n.grad = some g → g.shape = n.zero.shape

/-- **After backward the gradient of every tensor has exactly that tensor's shape**, whatever the
    shapes of the other operands and whatever the kernels returned: buffers are created by
    `zeros_like`, the root buffer by the (shape-checked) caller gradient, and afterwards only ever
    updated by in-place addition. -/
theorem grad_buffer_dtype_shape (ns : Graph (NDArray α)) (h0 : GradShapesOK ns) (root : Nat) (g : NDArray α)
    (r : Node (NDArray α)) (hr : ns[root]? = some r) (hg : g.shape = r.zero.shape) (retainAll : Bool)
    (ns' : Graph (NDArray α)) (tr : List TrEv) (h : Engine.backward ns root g retainAll = some (ns', tr)) :
    GradShapesOK ns' := by
  -- `+` on arrays keeps the shape of its left operand by definition
  exact Proofs.Api.bufInv_backward (R := fun (z x : NDArray α) => x.shape = z.shape) (fun _ => rfl) (fun _ _ _ hab => hab)
    ns root g retainAll ns' tr h h0 (fun r' hr' => by rw [hr] at hr'; cases hr'; exact hg)

/-- **`backward(grad)` goes ahead only with an upstream gradient of exactly the root's shape** — same rank and
    every extent equal (a `(1,)` gradient for a 0-d root, an `(n, 1)` one for an `(n,)` root, a prefix of the
    shape … are all refused): the hypothesis `hg` of `grad_buffer_dtype_shape` is what the API checks. -/
theorem backward_accepts_only_matching_shape (st st' : TState α) (root : Nat) (g : NDArray α) (tr : List TrEv)
    (h : Api.backward st root g = (st', some tr)) :
    ∃ v, st.vals[root]? = some v ∧ g.shape = v.shape := by
  unfold Api.backward at h
  split at h
  · rename_i r v hr hv
    refine ⟨v, hv, ?_⟩
    by_cases hrg : r.reqGrad = true
    · simp only [hrg] at h
      by_cases hs : (v.shape != g.shape) = true
      · simp [hs] at h
      · simp only [bne_iff_ne, Decidable.not_not] at hs
        exact hs.symm
    · simp [hrg] at h
  · simp at h

/-- **The `.grad` setter stores only an array of exactly the tensor's shape**, and leaves the invariant in
    place (`hz`: the node's `zero` field is `zeros_like` of its value — `mkTensor_zero_shape'`). -/
theorem assignGrad_keeps_shapes (st st' : TState α) (i : Nat) (g : NDArray α) (h0 : GradShapesOK st.g)
    (hz : ∀ n v, st.g[i]? = some n → st.vals[i]? = some v → n.zero.shape = v.shape)
    (h : assignGrad st i g = some st') :
    (∃ v, st.vals[i]? = some v ∧ g.shape = v.shape) ∧ GradShapesOK st'.g := by
  unfold assignGrad at h
  split at h
  · rename_i n v hn hv
    by_cases hs : (v.shape != g.shape) = true
    · simp [hs] at h
    · simp only [hs, Bool.false_eq_true, if_false, Option.some.injEq] at h
      simp only [bne_iff_ne, Decidable.not_not] at hs
      subst h
      refine ⟨⟨v, hv, hs.symm⟩, ?_⟩
      exact Proofs.Api.bufInv_setGrad (R := fun (z x : NDArray α) => x.shape = z.shape) h0 i (some g) (fun m y hm hy => by
        cases hy
        rw [hn] at hm; cases hm
        rw [hz n v hn hv]; exact hs.symm)
  · simp at h

/-- non-vacuity of the refusal: a `(1,)` gradient for a 0-d root is not accepted (and neither is the setter's) -/
example : (Api.backward (α := Int) ⟨[⟨[], true, none, false, none, ⟨[], [0]⟩⟩], [⟨[], [5]⟩], [.f64], {}⟩ 0 ⟨[1], [1]⟩).2 = none := by decide
example : (assignGrad (α := Int) ⟨[⟨[], true, none, false, none, ⟨[], [0]⟩⟩], [⟨[], [5]⟩], [.f64], {}⟩ 0 ⟨[1], [1]⟩).isNone = true := by decide
example : (assignGrad (α := Int) ⟨[⟨[], true, none, false, none, ⟨[], [0]⟩⟩], [⟨[], [5]⟩], [.f64], {}⟩ 0 ⟨[], [1]⟩).isSome = true := by decide

/-
Why `mkTensor_zero_shape'` has the hypotheses `hv`, `hd`: its `g` and `zero.shape` clauses hold of any store; the `vals` and
`dtypes` clauses need those lists aligned with `g`: over `st.g = []`, `st.vals = [⟨[1], []⟩]` the call returns `k = 0` and
`st'.vals = [⟨[1], []⟩, v]`, so `st'.vals[0]? ≠ some v` for `v = ⟨[], []⟩`.
-/

/-- `mkTensor_zero_shape'` without `hv`, `hd` is refuted by a store whose lists are not aligned -/
theorem mkTensor_zero_shape_counterexample :
    ¬ ∀ (st st' : TState α) (v : NDArray α) (dt : DType) (rg : Bool) (ch : List Nat)
      (bk : Option (NDArray α → Option (List (Option (NDArray α))))) (k : Nat),
      mkTensor st v dt rg ch bk = some (st', k) →
      ∃ n, st'.g[k]? = some n ∧ n.zero.shape = v.shape ∧ st'.vals[k]? = some v ∧ st'.dtypes[k]? = some dt := by
  intro H
  let st0 : TState α := { g := [], vals := [⟨[1], []⟩], dtypes := [], modes := {} }
  obtain ⟨n, _, _, hv, _⟩ := H st0 _ ⟨[], []⟩ .f32 false [] none 0 rfl
  cases hv

/-- tensors created by `mkTensor` satisfy `zero.shape = value.shape`, which is what `Api.backward` checks the caller's
    gradient against (`hv`, `hd`: the three lists of the store are aligned) -/
theorem mkTensor_zero_shape' (st st' : TState α) (v : NDArray α) (dt : DType) (rg : Bool) (ch : List Nat)
    (bk : Option (NDArray α → Option (List (Option (NDArray α))))) (k : Nat)
    (hv : st.vals.length = st.g.length) (hd : st.dtypes.length = st.g.length)
    (h : mkTensor st v dt rg ch bk = some (st', k)) :
    ∃ n, st'.g[k]? = some n ∧ n.zero.shape = v.shape ∧ st'.vals[k]? = some v ∧ st'.dtypes[k]? = some dt := by
  obtain ⟨_, rfl, rfl⟩ := Proofs.Api.mkTensor_inv h
  exact ⟨_, List.getElem?_concat_length, rfl, hv ▸ List.getElem?_concat_length, hd ▸ List.getElem?_concat_length⟩

/-- the alignment of the three lists holds of the empty store and is kept by `mkTensor` (hence by `newLeaf`,
    `scalarOperand`, `applyOp`, `Ops.apply`), so the hypotheses `hv`, `hd` of the primed theorems hold of every store the
    API can build -/
theorem mkTensor_aligned (st st' : TState α) (v : NDArray α) (dt : DType) (rg : Bool) (ch : List Nat)
    (bk : Option (NDArray α → Option (List (Option (NDArray α))))) (k : Nat)
    (hv : st.vals.length = st.g.length) (hd : st.dtypes.length = st.g.length)
    (h : mkTensor st v dt rg ch bk = some (st', k)) :
    st'.vals.length = st'.g.length ∧ st'.dtypes.length = st'.g.length := by
  obtain ⟨_, _, rfl⟩ := Proofs.Api.mkTensor_inv h
  simp [hv, hd]

theorem apply_aligned (st st' : TState α) (op : Op α) (inputs ks : List Nat)
    (hv : st.vals.length = st.g.length) (hd : st.dtypes.length = st.g.length)
    (h : Ops.apply st op inputs = some (st', ks)) :
    st'.vals.length = st'.g.length ∧ st'.dtypes.length = st'.g.length := by
  obtain ⟨_, _, -, -, -, -, rfl⟩ := Proofs.Api.apply_inv h
  simp [hv, hd]

end Props.C10
