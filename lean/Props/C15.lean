import SynapModel.Init
import Mathlib.Algebra.Field.Basic
import Mathlib.Tactic.Ring
/-!
# C15 — Weight initialisers request the documented distribution

Statements about `Synap.Init` (the model of synapgrad/nn/init.py): for every shape, gain, mode,
nonlinearity and slope the parameters handed to the generator are the documented ones.  The
square root is an arbitrary function `HasSqrt.sqrt` (the theorems do not depend on its properties).
-/
namespace Props.C15
open Synap.Init Synap.Optim

variable {α : Type} [Field α] [HasSqrt α]

/-- **fan_in / fan_out as in PyTorch**: `fan_in = shape[1]·∏shape[2:]`, `fan_out = shape[0]·∏shape[2:]`;
    tensors of rank < 2 are rejected. -/
theorem fans_spec (shape : List Nat) :
    (∀ o i rest, shape = o :: i :: rest → fans shape = some (i * rest.foldr (· * ·) 1, o * rest.foldr (· * ·) 1)) ∧
    (shape.length < 2 → fans shape = none) := by
  refine ⟨fun o i rest h => h ▸ rfl, fun h => ?_⟩
  rcases shape with _ | ⟨_, _ | ⟨_, rest⟩⟩
  · rfl
  · rfl
  · exact absurd h (Nat.not_lt.mpr (Nat.le_add_left 2 rest.length))

/-- **Xavier uniform**: `U(−a, a)` with `a = gain·√(6/(fan_in+fan_out))`. -/
theorem xavier_uniform_bound (shape : List Nat) (g : α) (fi fo : Nat) (h : fans shape = some (fi, fo)) :
    xavierUniform shape g = some (.uniform (-(g * HasSqrt.sqrt (6 / ((fi + fo : Nat) : α)))) (g * HasSqrt.sqrt (6 / ((fi + fo : Nat) : α)))) := by
  rw [xavierUniform, h]
  rfl

/-- **Xavier normal**: `N(0, std²)` with `std = gain·√(2/(fan_in+fan_out))` — the standard
    deviation itself is handed to the generator, not its square. -/
theorem xavier_normal_std (shape : List Nat) (g : α) (fi fo : Nat) (h : fans shape = some (fi, fo)) :
    xavierNormal shape g = some (.normal 0 (g * HasSqrt.sqrt (2 / ((fi + fo : Nat) : α)))) := by
  rw [xavierNormal, h]
  rfl

/-- **Kaiming uniform**: `U(−b, b)` with `b = gain·√(3/fan_mode)`. -/
theorem kaiming_uniform_bound (shape : List Nat) (a : α) (fanOut : Bool) (nl : Nonlin) (fi fo : Nat)
    (h : fans shape = some (fi, fo)) :
    let fan := if fanOut then fo else fi
    kaimingUniform shape a fanOut nl
      = some (.uniform (-(gain nl (some a) * HasSqrt.sqrt (3 / (fan : α)))) (gain nl (some a) * HasSqrt.sqrt (3 / (fan : α)))) := by
  rw [kaimingUniform, h]
  rfl

/-- **Kaiming normal**: `N(0, std²)` with `std = gain/√fan_mode`. -/
theorem kaiming_normal_std (shape : List Nat) (a : α) (fanOut : Bool) (nl : Nonlin) (fi fo : Nat)
    (h : fans shape = some (fi, fo)) :
    let fan := if fanOut then fo else fi
    kaimingNormal shape a fanOut nl = some (.normal 0 (gain nl (some a) / HasSqrt.sqrt (fan : α))) := by
  intro fan
  rw [kaimingNormal, h, div_eq_mul_one_div]
  rfl

/-- **Linear and Conv layers start from `U(−1/√fan_in, 1/√fan_in)`.** -/
theorem layer_default_bound (shape : List Nat) (fi fo : Nat) (h : fans shape = some (fi, fo)) (hpos : 0 < fi) :
    layerDefault (α := α) shape = some (.uniform (-(1 / HasSqrt.sqrt (fi : α))) (1 / HasSqrt.sqrt (fi : α))) := by
  rw [layerDefault, h, Option.map_some]
  simp only [hpos]
  rfl

/-- **Gain table** of `calculate_gain`. -/
theorem gain_table (p : Option α) :
    gain (α := α) .linear p = 1 ∧ gain (α := α) .conv1d p = 1 ∧ gain (α := α) .conv2d p = 1 ∧ gain (α := α) .sigmoid p = 1 ∧
    gain (α := α) .tanh p = 5 / 3 ∧ gain (α := α) .relu p = HasSqrt.sqrt 2 ∧ gain (α := α) .selu p = 3 / 4 ∧
    (∀ s : α, gain (α := α) .leakyRelu (some s) = HasSqrt.sqrt (2 / (1 + s ^ 2))) := by
  simp only [gain, Nat.cast_ofNat, sq, implies_true, and_self]

/-- the variance Xavier-uniform asks for agrees with the documented std of Xavier-normal whenever
    `sqrt` really is a square root (`s6² = 6x`, `s2² = 2x`): `a²/3 = std²` -/
theorem xavier_uniform_variance (g s6 s2 x : α) (h3 : (3 : α) ≠ 0) (h6 : s6 * s6 = 6 * x) (h2 : s2 * s2 = 2 * x) :
    (g * s6) ^ 2 / 3 = (g * s2) ^ 2 := by
  rw [mul_pow, mul_pow, sq s6, sq s2, h6, h2, div_eq_iff h3]
  ring

example : fans [4, 3, 2, 2] = some (12, 16) := by decide +kernel

end Props.C15
