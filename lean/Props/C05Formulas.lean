import Proofs.FormulaTie
/-!
# C05 — the forward formulas of the elementwise tensor ops, read from the source on this run, are what the model applies

See `Props/C01Formulas.lean` for the role of `Synap.Gen.*` (regenerated from `cpu_ops.py` by `harness/formulas.py` on every run).
-/
namespace Props.C05
open Synap Synap.NDArray Synap.Kernels Proofs.FormulaTie

theorem src_forward_add (a b : NDArray ℝ) : addForward a b = bcast2 Gen.add_forward a b := lift_add a b
theorem src_forward_mul (a b : NDArray ℝ) : mulForward a b = bcast2 Gen.mul_forward a b := (lift_mul a b a).1
theorem src_forward_neg (a : NDArray ℝ) : negForward a = a.map Gen.neg_forward := (lift_neg a a).1
theorem src_forward_exp (a : NDArray ℝ) : expForward a = a.map Gen.exp_forward := (lift_exp a a a).1
/-- `log` computes `log(x + ε)` with the module constant read from the source -/
theorem src_forward_log (a : NDArray ℝ) : logForward a = a.map Gen.log_forward := (lift_log a a).1
theorem src_forward_sqrt (a : NDArray ℝ) : sqrtForward a = a.map Gen.sqrt_forward := (lift_sqrt a a a).1
/-- `x ** n` is the real power for every exponent: no exponent has a path of its own -/
theorem src_forward_pow (a : NDArray ℝ) (n : ℝ) : powForward a n = a.map (fun x => Gen.pow_forward x n) := (lift_pow a a n).1
theorem src_forward_pow_formula (x n : ℝ) : Gen.pow_forward x n = x ^ n := rfl
theorem src_forward_rpow (a : NDArray ℝ) (n : ℝ) : rpowForward a n = a.map (fun x => Gen.rpow_forward x n) := (lift_rpow a a a n).1

end Props.C05
