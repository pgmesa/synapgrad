import Proofs.LayerLogicTie
import SynapModel.Layers
import Proofs.ModulesLemmas
import Mathlib.Algebra.Field.Basic
import Mathlib.Algebra.Order.Field.Basic
import Mathlib.Algebra.CharZero.Defs
import Mathlib.Tactic.Ring
import Mathlib.Algebra.BigOperators.Group.List.Basic
/-!
# C13 — Dropout and BatchNorm honour train/eval mode over any call history

Statements about `Synap.Layers` (the model of BatchNorm / Dropout in synapgrad/nn/layers.py and
cpu_ops.batch_norm_forward) over an arbitrary field with an arbitrary square-root function.
-/
namespace Props.C13
open Synap.Layers Synap.Optim

-- the statements carry section instances / length hypotheses that some proofs do not need
set_option linter.unusedSectionVars false
set_option linter.unusedVariables false

section BN
variable {α : Type} [Field α] [HasSqrt α]

/-- **Every constructor option is honoured at construction**: a layer built with `affine` owns a weight and a bias (two
    parameters) exactly when `affine` is set, and running statistics exactly when `track_running_stats` is set — the two options
    are independent. -/
theorem init_owns_by_options (c : BNCfg α) (channels : Nat) (affine : Bool) :
    bnOwns c (bnInit c channels affine)
      = { weight := affine, bias := affine, runningMean := c.track, runningVar := c.track, params := if affine then 2 else 0 } := by
  cases affine <;> simp [bnOwns, bnInit]

/-- `bnForward` without its intermediate list of triples: output and new buffers are maps over the channels
    (`u` is `bn_training`; `m`, `v` are the statistics a channel is normalised with) -/
theorem bnForward_eq (c : BNCfg α) (s : BNState α) (xs : List (List α)) :
    bnForward c s xs =
      let u := s.training || !c.track
      let n := (xs.head?.map List.length).getD 0
      let f := (avgFactor c s).1
      let m := fun (k : Nat) (x : List α) => if u then mean x else s.rm.getD k 0
      let v := fun (k : Nat) (x : List α) => if u then var x else s.rv.getD k 1
      if u && decide (n ≤ 1) then (none, { s with nbt := (avgFactor c s).2 }) else
      (some (xs.zipIdx.map fun (x, k) => normalise c.eps (m k x) (v k x) (s.gamma.map (·.getD k 1)) (s.beta.map (·.getD k 0)) x),
       { s with
          rm := if s.training && c.track then xs.zipIdx.map fun (x, k) => m k x * f + s.rm.getD k 0 * (1 - f) else s.rm
          rv := if s.training && c.track then
              xs.zipIdx.map fun (x, k) => (v k x * ((n : α) / ((n : α) - 1))) * f + s.rv.getD k 1 * (1 - f) else s.rv
          nbt := (avgFactor c s).2 }) := by
  have hz : ∀ {β : Type} (g : List α × Nat → β), (xs.zipIdx.map g).zipIdx = xs.zipIdx.map fun p => (g p, p.2) := by
    intro β g
    apply List.ext_getElem?; intro i
    simp only [List.getElem?_map, List.getElem?_zipIdx]
    cases xs[i]? <;> simp
  simp only [bnForward, hz, List.map_map]
  rfl

theorem bnForward_snd (c : BNCfg α) (s : BNState α) (xs : List (List α)) :
    ∃ rm rv, (bnForward c s xs).2 = { s with rm := rm, rv := rv, nbt := (avgFactor c s).2 } := by
  rw [bnForward_eq]; dsimp only
  -- `split` on this `if` is slow (it abstracts both large branches); the guard is a `Bool`, so case on its value
  generalize (_ && decide (_ ≤ 1)) = b
  cases b <;> exact ⟨_, _, rfl⟩

/-- forwards never create or remove the affine parameters -/
theorem forward_keeps_owned (c : BNCfg α) (s : BNState α) (xs : List (List α)) :
    bnOwns c (bnForward c s xs).2 = bnOwns c s := by
  obtain ⟨_, _, e⟩ := bnForward_snd c s xs; rw [e]; rfl

/-- **Eval mode never changes the layer state** (running statistics, counter, flags), accepted
    or rejected. -/
theorem eval_keeps_state (c : BNCfg α) (s : BNState α) (xs : List (List α)) (h : s.training = false) :
    (bnForward c s xs).2 = s := by
  cases s; cases h
  simp only [bnForward_eq]
  generalize (_ && decide (_ ≤ 1)) = b
  cases b <;> rfl

/-- **Eval mode with tracked statistics normalises with the running statistics**: the output is
    a function of the input and the state only. -/
theorem eval_uses_running (c : BNCfg α) (s : BNState α) (xs : List (List α)) (h : s.training = false)
    (ht : c.track = true) :
    (bnForward c s xs).1 = some (xs.zipIdx.map (fun (x, k) =>
      normalise c.eps (s.rm.getD k 0) (s.rv.getD k 1) (s.gamma.map (·.getD k 1)) (s.beta.map (·.getD k 0)) x)) := by
  simp only [bnForward_eq, h, ht, Bool.not_true, Bool.or_false, Bool.false_and, Bool.false_eq_true, if_false]

/-- **A training forward advances the counter exactly once** ... -/
theorem train_updates_once (c : BNCfg α) (s : BNState α) (xs : List (List α)) (h : s.training = true)
    (ht : c.track = true) :
    (bnForward c s xs).2.nbt = s.nbt + 1 ∧ (bnForward c s xs).2.training = true := by
  obtain ⟨_, _, e⟩ := bnForward_snd c s xs
  simp only [e, avgFactor, h, ht, Bool.and_self, if_true, and_self]

/-- ... and, when accepted, moves every channel's running mean / variance by the documented rule
    with factor `momentum`, or `1 / num_batches_tracked` when momentum is `None`; the variance
    that enters is the unbiased one `var · n/(n−1)`. -/
theorem train_update_rule (c : BNCfg α) (s : BNState α) (xs : List (List α)) (h : s.training = true)
    (ht : c.track = true) (out : List (List α)) (hacc : (bnForward c s xs).1 = some out)
    (k : Nat) (x : List α) (hk : xs[k]? = some x) :
    let f : α := match c.momentum with | none => 1 / ((s.nbt + 1 : Nat) : α) | some m => m
    let n : α := (((xs.head?.map List.length).getD 0 : Nat) : α)
    (bnForward c s xs).2.rm[k]? = some (mean x * f + s.rm.getD k 0 * (1 - f)) ∧
    (bnForward c s xs).2.rv[k]? = some ((var x * (n / (n - 1))) * f + s.rv.getD k 1 * (1 - f)) ∧
    out[k]? = some (normalise c.eps (mean x) (var x) (s.gamma.map (·.getD k 1)) (s.beta.map (·.getD k 0)) x) := by
  simp only [bnForward_eq, avgFactor, h, ht, Bool.true_or, if_true, Bool.true_and] at hacc ⊢
  generalize decide (_ ≤ 1) = b at hacc ⊢
  cases b
  · cases hacc
    simp only [Bool.false_eq_true, if_false, List.getElem?_map, List.getElem?_zipIdx, hk, Option.map_some, Nat.zero_add]
    exact ⟨rfl, rfl, trivial⟩
  · cases hacc

/-- **Exponential moving average, closed form**: folding `r ← m·a + r·(1−a)` over batch means
    `ms` gives `(1−a)^n r₀ + a Σ_i (1−a)^{n−1−i} m_i`. -/
theorem running_mean_exponential (a r0 : α) (ms : List α) :
    ms.foldl (fun r m => m * a + r * (1 - a)) r0
      = (1 - a) ^ ms.length * r0 + a * ((ms.zipIdx.map (fun (m, i) => (1 - a) ^ (ms.length - 1 - i) * m)).sum) := by
  generalize 1 - a = b
  -- from the front: the exponent of an entry is its distance from the END, which a new head leaves as it is
  -- (`n + 1 - 1 - (i + 1) = n - 1 - i`, also in truncated subtraction)
  induction ms generalizing r0 with
  | nil => simp
  | cons m ms ih =>
    rw [List.foldl_cons, ih, List.zipIdx_cons, List.map_cons, List.sum_cons, List.zipIdx_succ, List.map_map, List.length_cons]
    simp only [Function.comp_def, Nat.add_sub_cancel, Nat.sub_zero, Nat.sub_add_eq, Nat.sub_right_comm _ _ 1]
    ring

/-- **Cumulative moving average** (`momentum=None`): with factor `1/k` at the k-th training batch
    the running mean after `n ≥ 1` batches is the plain average of the batch means, whatever the
    initial value was. -/
theorem running_mean_cumulative [CharZero α] (r0 : α) (ms : List α) (hne : ms ≠ []) :
    (ms.zipIdx.foldl (fun r (m, i) => m * (1 / ((i + 1 : Nat) : α)) + r * (1 - 1 / ((i + 1 : Nat) : α))) r0)
      = ms.sum / (ms.length : α) := by
  -- with factor `1/(j+1)` at batch `j`, `(j+1)·r` is the running SUM: each step adds the new input to it
  suffices H : ∀ (j : Nat) (r0 : α), (ms.zipIdx j).foldl _ r0 * ((j + ms.length : Nat) : α) = r0 * (j : α) + ms.sum by
    refine eq_div_of_mul_eq (Nat.cast_ne_zero.mpr (fun e => hne (List.length_eq_zero_iff.mp e))) ?_
    have h := H 0 r0
    rwa [Nat.zero_add, Nat.cast_zero, mul_zero, zero_add] at h
  clear hne
  induction ms with
  | nil => exact fun j r0 => (add_zero _).symm
  | cons m ms ih =>
    intro j r0
    have h2 : ((j + 1 : Nat) : α) ≠ 0 := Nat.cast_ne_zero.mpr (Nat.succ_ne_zero j)
    rw [List.zipIdx_cons, List.foldl_cons, List.length_cons, ← Nat.add_assoc, Nat.add_right_comm, ih, List.sum_cons, add_mul,
      one_div, inv_mul_cancel_right₀ h2, mul_assoc, sub_mul, inv_mul_cancel₀ h2, Nat.cast_succ]
    ring

/-- **Without tracked statistics** the layer always normalises with the batch statistics and has
    no state to change. -/
theorem no_track_uses_batch_stats (c : BNCfg α) (s : BNState α) (xs : List (List α)) (ht : c.track = false) :
    (bnForward c s xs).2 = s ∧
    (∀ out, (bnForward c s xs).1 = some out → out = xs.zipIdx.map (fun (x, k) =>
      normalise c.eps (mean x) (var x) (s.gamma.map (·.getD k 1)) (s.beta.map (·.getD k 0)) x)) := by
  simp only [bnForward_eq, avgFactor, ht, Bool.and_false, Bool.not_false, Bool.or_true, Bool.false_eq_true, if_false, if_true]
  generalize (_ && decide (_ ≤ 1)) = b
  cases b
  · exact ⟨rfl, fun out h => by cases h; rfl⟩
  · exact ⟨rfl, fun out h => by cases h⟩

end BN

section Dropout
variable {α : Type} [Field α] [LinearOrder α] [IsStrictOrderedRing α]

/-- **Eval-mode dropout is the identity.** -/
theorem dropout_eval_identity (p : α) (xs us : List α) : dropout p false xs us = xs := by
  simp [dropout]

/-- **Training-mode dropout** zeroes exactly the elements whose draw is `≤ p` and scales the
    survivors by exactly `1/(1−p)` (by 1 when `p = 1`, where nothing survives a draw in [0,1)). -/
theorem dropout_train_spec (p : α) (xs us : List α) (i : Nat) (x u : α)
    (hx : xs[i]? = some x) (hu : us[i]? = some u) :
    (dropout p true xs us)[i]? = some (if u ≤ p then 0 else if p < 1 then x * (1 / (1 - p)) else x) := by
  simp only [dropout, if_true, dropMask, List.getElem?_zipWith, List.getElem?_map, hx, hu,
    Option.map_some]
  by_cases h1 : u ≤ p <;> by_cases h2 : p < 1 <;> simp [h1, h2]

/-- **Backward goes through the same mask**: the training-mode forward is `x ↦ x ⊙ mask`, linear
    in `x`, and `dropoutBackward` is its transpose: ⟨v ⊙ mask, g⟩ = ⟨v, g ⊙ mask⟩. -/
theorem dropout_backward_same_mask (p : α) (vs gs us : List α)
    (h1 : vs.length = us.length) (h2 : gs.length = us.length) :
    (List.zipWith (· * ·) (dropout p true vs us) gs).sum
      = (List.zipWith (· * ·) vs (dropoutBackward p gs us)).sum := by
  simp only [dropout, if_true, dropoutBackward]
  generalize dropMask p us = ws
  clear h1 h2
  induction vs generalizing gs ws with
  | nil => simp
  | cons v vs ih =>
    cases gs with
    | nil => simp
    | cons g gs =>
      cases ws with
      | nil => simp
      | cons w ws =>
        simp only [List.zipWith_cons_cons, List.sum_cons, ih]
        ring

theorem dropout_linear (p t : α) (xs vs us : List α) (h1 : xs.length = us.length) (h2 : vs.length = us.length) :
    dropout p true (List.zipWith (fun x v => x + t * v) xs vs) us
      = List.zipWith (fun y w => y + t * w) (dropout p true xs us) (dropout p true vs us) := by
  simp only [dropout, if_true]
  generalize dropMask p us = ws
  clear h1 h2
  induction xs generalizing vs ws with
  | nil => simp
  | cons x xs ih =>
    cases vs with
    | nil => simp
    | cons v vs =>
      cases ws with
      | nil => simp
      | cons w ws =>
        simp only [List.zipWith_cons_cons, ih, List.cons.injEq, and_true]
        ring

end Dropout

/-! ### Attachment is not a mode switch

The mode of a layer is the flag `train()` / `eval()` last wrote into it: directly, or through a parent that held the layer in its
registry AT THE TIME OF THAT CALL (`Synap.Modules.setTraining`, theorem `Props.C12.setTraining_reaches`).  Assigning the layer as an
attribute of a parent, `register_module`, handing it to a container constructor, re-attaching it elsewhere or detaching it leave the
flag of every module as it is — so a layer put in eval mode and then attached to a (training-mode) model stays in eval mode. -/
section Attach
open Synap.Modules

/-- **`register_module` leaves every mode as it is** (the registered module's, the parent's, everybody else's). -/
theorem register_keeps_modes (w : World) (m : Nat) (name : String) (j k : Nat) :
    ((regMod w m name j).mods[k]?).map Mod.training = (w.mods[k]?).map Mod.training :=
  updMod_keeps Mod.training w m _ (by intro; rfl) k

/-- **Attribute assignment leaves every mode as it is**, whatever is assigned (a module: attach; `None` / a plain value / a
    parameter: detach). -/
theorem attach_keeps_modes (w : World) (m : Nat) (name : String) (v : Val) (k : Nat) :
    ((setAttr w m name v).mods[k]?).map Mod.training = (w.mods[k]?).map Mod.training := by
  cases v with
  | other => exact updMod_keeps Mod.training _ _ _ (by intro; rfl) _
  | mod j | par j => exact (updMod_keeps Mod.training _ _ _ (by intro; rfl) _).trans (updMod_keeps Mod.training _ _ _ (by intro; rfl) _)

/-- **A container built around existing modules** (`Sequential(a, b, …)`) starts in training mode and leaves the mode of each of
    its members — and of every other existing module — as it is. -/
theorem container_keeps_modes (w : World) (ks : List Nat) :
    (((sequential w ks).1.mods[(sequential w ks).2]?).map Mod.training = some true) ∧
    ∀ k : Nat, k < w.mods.length → ((sequential w ks).1.mods[k]?).map Mod.training = (w.mods[k]?).map Mod.training := by
  have hfold : ∀ k : Nat, ((sequential w ks).1.mods[k]?).map Mod.training = ((w.mods ++ [⟨[], [], true⟩])[k]?).map Mod.training :=
    fun k => foldl_preserves (fun w : World => (w.mods[k]?).map Mod.training) (fun w (x : Nat × Nat) => regMod w _ (toString x.2) x.1)
      (fun w x => register_keeps_modes w _ _ x.1 k) _ _
  exact ⟨(hfold _).trans (congrArg _ List.getElem?_concat_length), fun k hk => by rw [hfold, List.getElem?_append_left hk]⟩

end Attach

instance : HasSqrt ℚ := ⟨fun x => x⟩   -- for the examples below: any function will do for the state theorems

example : (bnForward (α := ℚ) ⟨some (1/2), 0, true⟩ (bnInit ⟨some (1/2), 0, true⟩ 1 false) [[1, 3]]).2.rm = [1] := by
  decide +kernel

/-- `bn.eval()`, then `model = Sequential(fc, bn)` (a fresh container, in training mode): the layer is still in eval mode; a later
    `model.train()` reaches it -/
example : (let w := (Synap.Modules.newMod (Synap.Modules.newMod Synap.Modules.World.empty).1).1      -- m0 = bn, m1 = fc
           let w := Synap.Modules.setTraining false (Synap.Modules.fuelOf w) w 0
           let w := (Synap.Modules.sequential w [1, 0]).1
           (w.mods.map Synap.Modules.Mod.training, (Synap.Modules.setTraining true (Synap.Modules.fuelOf w) w 2).mods.map Synap.Modules.Mod.training))
    = ([false, true, true], [true, true, true]) := by decide +kernel

open Proofs.LayerLogicTie in
/-- **The decision logic of `BatchNorm.forward`, read from `layers.py` on this run** (`Generated/LayerLogic.lean`, rewritten by
    `harness/layer_logic.py` every time the check runs) **is that of the layer model**: counter, averaging factor, use of batch
    statistics and passing of the running buffers, for every option setting, mode and counter value, over any field -/
theorem src_bn_forward_logic_is_model : type_of% @bn_forward_logic_is_model := @bn_forward_logic_is_model

end Props.C13
