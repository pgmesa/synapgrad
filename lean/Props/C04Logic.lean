import Proofs.EngineLogicBuffers
/-!
# C04 — the decision logic of `tensor.py`, read from the source on this run, is the logic of the engine model

`Synap.Gen.Engine.*` (file `SynapModel/Generated/EngineLogic.lean`) is regenerated from `/repo/synapgrad/tensor.py` by
`harness/engine_logic.py` every time a check runs.  The statements (with their proofs) are in `Proofs/EngineLogicBuffers.lean` (namespace `Proofs.EngineLogicTie`);
they are re-exported here because they belong to this property: which buffers are freshly zeroed, when the root accumulates, which buffers are released.
-/
namespace Props.C04

/-- `child.zero_()` happens exactly under the source condition (requires grad and (no buffer or non-leaf met for the first time)) -/
theorem src_zero_check_is_model : type_of% @Proofs.EngineLogicTie.zeroCheck_uses_src := @Proofs.EngineLogicTie.zeroCheck_uses_src

/-- the condition itself, atom by atom -/
theorem src_zero_cond_is_model : type_of% @Proofs.EngineLogicTie.zero_cond_is_model := @Proofs.EngineLogicTie.zero_cond_is_model

/-- a leaf root with a buffer accumulates, every other root is assigned -/
theorem src_root_accumulates_is_model : type_of% @Proofs.EngineLogicTie.root_accumulates_is_model := @Proofs.EngineLogicTie.root_accumulates_is_model

/-- non-root, non-leaf, non-retained buffers are released unless retain_grads is on -/
theorem src_release_cond_is_model : type_of% @Proofs.EngineLogicTie.release_cond_is_model := @Proofs.EngineLogicTie.release_cond_is_model

end Props.C04
