import Props.C04Logic
import Proofs.EngineDuality
/-!
# C04 — Leaf gradients accumulate exactly across any history of backward calls

Statements about `Synap.Engine.backward` for every graph and every state of the gradient buffers
(i.e. after any history of earlier calls, resets, `retain_grad`, re-use of earlier results).
-/
namespace Props.C04
open Synap.Engine Proofs.Engine

variable {G : Type}

/-- **During the traversal every non-leaf operand is freshly zeroed** (whatever an earlier call
    left on it), a leaf without gradient is zero-initialised, a leaf with a gradient is kept, and
    nothing else is touched. -/
theorem traversal_zeroes_nonleaf_operands (ns : Graph G) (hw : WFG ns) (root : Nat) (hr : root < ns.length) :
    SameSkeleton ns (traverse ns root).ns ∧
    ∀ (v : Nat) (n n' : Node G), ns[v]? = some n → (traverse ns root).ns[v]? = some n' →
      (ChildOfReach ns root v ∧ n.reqGrad = true →
        n'.grad = if n.isLeaf then some (n.grad.getD n.zero) else some n.zero) ∧
      (¬ (ChildOfReach ns root v ∧ n.reqGrad = true) → n'.grad = n.grad) := by
  have F := travFacts ns hw root hr
  refine ⟨sameSkeleton_of_skel F.skel, ?_⟩
  intro v n n' hn hn'
  have h := F.gi v n n' hn hn'
  have hiff : (v ∈ (traverse ns root).visited ∧ v ≠ root) ↔ ChildOfReach ns root v := by
    rw [F.mem_vis, childOfReach_iff hw]
  constructor
  · intro ⟨hc, hr⟩; exact h.1 ⟨hiff.mpr hc, hr⟩
  · intro hne; exact h.2 (fun ⟨hx, hr⟩ => hne ⟨hiff.mp hx, hr⟩)

variable [AddCommMonoid G]

/-- **No gradient left over on a non-leaf tensor leaks into a later call**: two states that differ
    only in what earlier calls left on non-leaf tensors produce the same trace and the same
    gradients on every reachable node and every leaf. -/
theorem no_leftover_leak (a b : Graph G) (hw : WFG a) (hab : AgreeUpToNonLeafGrads a b)
    (root : Nat) (g : G) (retainAll : Bool) :
    (backward a root g retainAll).isSome = (backward b root g retainAll).isSome ∧
    ∀ a' ta b' tb, backward a root g retainAll = some (a', ta) → backward b root g retainAll = some (b', tb) →
      ta = tb ∧ ∀ (v : Nat) (n m : Node G), a'[v]? = some n → b'[v]? = some m →
        (Reach a root v ∨ n.isLeaf = true) → m.grad = n.grad :=
  Proofs.Engine.no_leftover_leak a b hw hab root g retainAll

/- `leaf_gradients_accumulate` needs `BackImpliesReq a` (a node with a `grad_fn` requires grad — an
   invariant of tensor creation).  Without it the statement is false: take `G = ℕ` and the nodes
     0 : L = {children := [],     reqGrad := true,  back := none,                           grad := some 0}
     1 : X = {children := [0],    reqGrad := false, back := some (fun γ => some [some γ]),  grad := some x}
     2 : R = {children := [1, 0], reqGrad := true,  back := some (fun γ => some [none, some γ]), grad := none}
   (all `zero := 0`, `retain := false`), `a` with `x = 5`, `b` with `x = 7`, `root = 2`, `g = 1`.
   `X` does not require grad, so it counts as a leaf and keeps its stale buffer, but it still has a
   `grad_fn`, which the sweep calls on that buffer: `backward` leaves `6` on node 0 in `a'` and `8`
   in `b'` (checked by evaluating the model), while `gradOf a 0 = gradOf b 0 = 0`, so `6 + 0 ≠ 8 + 0`
   although `WFG a`, `SameSkeleton a b`, `hz` and `L.isLeaf` all hold. -/

/-- **Leaf gradients accumulate**: what a backward call adds to a leaf does not depend on what any
    buffer held before the call (subtraction-free: the same call on two states that differ only in
    their buffers shifts every leaf by the same amount).  Hence after any history the leaf holds
    the sum of the per-call gradients since its last reset. -/
theorem leaf_gradients_accumulate (a b : Graph G) (hw : WFG a) (hab : SameSkeleton a b)
    (hz : ∀ (v : Nat) (n : Node G), a[v]? = some n → n.zero = 0) (hq : BackImpliesReq a)
    (root : Nat) (g : G) (retainAll : Bool)
    (a' b' : Graph G) (ta tb : List TrEv)
    (ha : backward a root g retainAll = some (a', ta)) (hb' : backward b root g retainAll = some (b', tb))
    (l : Nat) (n : Node G) (hn : a[l]? = some n) (hleaf : n.isLeaf = true) :
    gradOf a' l + gradOf b l = gradOf b' l + gradOf a l := by
  have hskab : Skel a b := skel_of_sameSkeleton hab
  have hwb : WFG b := hw.of_skel hskab
  have hzb : ∀ (v : Nat) (m : Node G), b[v]? = some m → m.zero = 0 := by
    intro v m hm
    obtain ⟨m0, hm0, hst⟩ := hskab.symm.get hm
    rw [← zero_of_strip hst]; exact hz v m0 hm0
  obtain ⟨ra, A, -, Fa, hSA, hfina, hA⟩ := backward_start hw hz ha
  obtain ⟨rb, B, -, -, hSB, hfinb, hB⟩ := backward_start hwb hzb hb'
  rw [← (traverse_rel hskab root).ordered] at hfinb
  refine sweep_rel a hq root retainAll (gradOf a) (gradOf b) _ _ _ _ _ _ _
    hSA (hskab.trans hSB) Fa.topo hfina hfinb ?_ ?_ l n hn hleaf
  · -- non-leaves of the list hold the same gradient in both graphs: `g` at the root, 0 elsewhere
    intro w hw' n0 h0 hl0
    have hre : Reach a root w := (Fa.mem_ord w).mp (List.mem_reverse.mp hw')
    obtain ⟨m, hm, hst⟩ := hskab.get h0
    rw [hA w n0 h0 (Or.inr hre), hB w m hm (Or.inr (hre.of_skel hskab)), isLeaf_of_strip hst]
    simp [hl0]
  · -- leaves are shifted by the same amount (only the root, by `g`)
    intro w n0 h0 hl0
    obtain ⟨m, hm, hst⟩ := hskab.get h0
    rw [hA w n0 h0 (Or.inl hl0), hB w m hm (Or.inl ((isLeaf_of_strip hst).trans hl0)), isLeaf_of_strip hst]
    simp only [hl0, if_true]
    rw [add_right_comm, add_comm (gradOf a w) (gradOf b w), add_right_comm]

/-- **Tensors not reachable from the root of a call are not changed by it**, and the call changes
    nothing but gradient buffers. -/
theorem unreachable_untouched (ns : Graph G) (hw : WFG ns) (root : Nat) (g : G) (retainAll : Bool)
    (ns' : Graph G) (tr : List TrEv) (h : backward ns root g retainAll = some (ns', tr)) :
    SameSkeleton ns ns' ∧
    (∀ v, ¬ Reach ns root v → ns'[v]? = ns[v]?) ∧
    (∀ v n n', v ≠ root → ns[v]? = some n → ns'[v]? = some n' → n.reqGrad = false → n'.grad = n.grad) :=
  backward_frame ns hw root g retainAll ns' tr h

/-! ### Non-vacuity: the history `l1.backward(); (l1 + l2).backward()` over `Int` — the gradient
left on `l1` by the first call does not reach the leaf a second time -/
def g0 : Graph Int := [
  { children := [], reqGrad := true, back := none, retain := false, grad := none, zero := 0 },          -- x
  { children := [0], reqGrad := true, back := some (fun γ => some [some (2 * γ)]), retain := false, grad := none, zero := 0 },  -- l1 = 2x
  { children := [0], reqGrad := true, back := some (fun γ => some [some (3 * γ)]), retain := false, grad := none, zero := 0 },  -- l2 = 3x
  { children := [1, 2], reqGrad := true, back := some (fun γ => some [some γ, some γ]), retain := false, grad := none, zero := 0 } ] -- l1 + l2

example : ((backward g0 1 1 false).bind (fun r => backward r.1 3 1 false)).map (fun r => r.1.map (·.grad))
    = some [some 7, none, none, some 1] := by decide   -- 2 (first call) + 5 (second call), not 2 + 7

end Props.C04
