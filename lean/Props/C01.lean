import Proofs.AdjointAlg
import Proofs.AdjointExpand
import Proofs.AdjointIndex
import Proofs.PointwiseCalc
import Proofs.Subgradient
import Props.C01Formulas
import Props.C01Calls
/-!
# C01 — Backward of every tensor op yields the exact vector-Jacobian product

For a linear op `F` (or a bilinear op in one operand, the others fixed) the Jacobian-vector product
in direction `v` is `F v`, and `B` is the vector-Jacobian product exactly when
`⟪F v, g⟫ = ⟪v, B g⟫` for all `v, g`.  `IsAdjoint sa sy F B` bundles this identity with *totality*
(whenever the forward call is accepted, backward returns) and the *shape* claim (the gradient has
exactly the operand's shape).  `vjp_unique` shows the identity pins `B g` down completely, so
"adjoint" is "equal to the VJP, and nothing else may differ".

All statements: every shape of any rank (0-d and size-1 axes included), every argument value the
forward accepts (`addmm`: factors of rank 2 only), every operand value, every upstream gradient, over any
commutative ring (`mean`: any field; max / min: any linearly ordered field).  The pointwise transcendental
ops (section `Calc`) are over ℝ, through `HasDerivAt`.
-/
namespace Props.C01
open Synap Synap.NDArray Synap.Np Synap.Kernels Proofs.Adjoint Proofs.Core

variable {R : Type} [CommRing R]

-- the well-formedness hypotheses of the operands are part of the stated interface but not always needed
set_option linter.unusedVariables false

/-- **The adjoint identity determines the backward kernel**: two kernels satisfying it for the same
    linear forward agree on every gradient. -/
theorem vjp_unique (sa sy : Shape) (F B B' : NDArray R → Option (NDArray R))
    (h : IsAdjoint sa sy F B) (h' : IsAdjoint sa sy F B') (g : NDArray R) (hg : g.WF) (hs : g.shape = sy) :
    B g = B' g := by
  obtain ⟨b, hb, hbw, hbs⟩ := h.backward_some g hg hs
  obtain ⟨b', hb', hbw', hbs'⟩ := h'.backward_some g hg hs
  rw [hb, hb']
  congr 1
  refine ext_get b b' hbw hbw' (hbs.trans hbs'.symm) fun i hi => ?_
  rw [hbs] at hi
  -- both entries at `i` are the pairing of `g` with the same forward value of the basis array at `i`
  obtain ⟨y1, c1, hy1, hc1, _, _, _, _, d1⟩ := h _ g (ofFn_wf sa fun k => if k = i then 1 else 0) rfl hg hs
  obtain ⟨y2, c2, hy2, hc2, _, _, _, _, d2⟩ := h' _ g (ofFn_wf sa fun k => if k = i then 1 else 0) rfl hg hs
  rw [hb] at hc1; rw [hb'] at hc2
  cases hc1; cases hc2
  rw [hy1] at hy2; cases hy2
  rw [← dot_basis sa i hi b, ← dot_basis sa i hi b', ← d1, ← d2]

/-- transpose(d0, d1), any pair of dims in [-ndim, ndim) -/
theorem transpose_vjp (a y : NDArray R) (d0 d1 : Int) (ha : a.WF) (h : transposeForward a d0 d1 = some y) :
    IsAdjoint (R := R) a.shape y.shape (fun v => transposeForward v d0 d1) (fun g => transposeBackward g d0 d1) :=
  transpose_adj a y d0 d1 h

/-- movedim(source, destination), any pair -/
theorem movedim_vjp (a y : NDArray R) (src dst : Int) (ha : a.WF) (h : movedimForward a src dst = some y) :
    IsAdjoint (R := R) a.shape y.shape (fun v => movedimForward v src dst) (fun g => movedimBackward g src dst) := by
  obtain ⟨hc, -⟩ := Option.ite_none_right_eq_some.1 ((Proofs.SpecOps.moveaxis_eq a src dst).symm.trans h)
  exact isAdjoint_of_transposeP
    (moveaxisPerm_pair _ _ _ (Proofs.SpecOps.pyAxis_lt _ _ hc.1) (Proofs.SpecOps.pyAxis_lt _ _ hc.2)) rfl
    (fun v hvs => by rw [movedimForward, Proofs.SpecOps.moveaxis_eq, hvs, if_pos hc])
    (fun g hl => by rw [movedimBackward, Proofs.SpecOps.moveaxis_eq, hl, if_pos hc.symm]) h

/-- reshape (with an optional -1) -/
theorem reshape_vjp (a y : NDArray R) (t : List Int) (ha : a.WF) (h : reshapeForward a t = some y) :
    IsAdjoint (R := R) a.shape y.shape (fun v => reshapeForward v t) (fun g => reshapeBackward g a.shape) := by
  obtain ⟨s', h0, -⟩ := Option.map_eq_some_iff.1 h
  exact isAdjoint_of_reshape s' (resolveShape_size _ _ _ h0)
    (fun v _ hvs => by simp [reshapeForward, reshape, hvs, h0]) ha h

/-- flatten(start_dim, end_dim), every pair the wrapper accepts -/
theorem flatten_vjp (a y : NDArray R) (s e : Int) (ha : a.WF) (h : flattenForward a s e = some y) :
    IsAdjoint (R := R) a.shape y.shape (fun v => flattenForward v s e) (fun g => reshapeBackward g a.shape) := by
  obtain ⟨t, h0, h⟩ := Option.bind_eq_some_iff.1 h
  refine (reshape_vjp a y t ha h).congr ?_ (fun _ _ _ => rfl)
  intro v _ hvs
  simp [flattenForward, hvs, h0, reshapeForward]

/-- squeeze(None | int | tuple) -/
theorem squeeze_vjp (a y : NDArray R) (ax : Axes) (ha : a.WF) (h : squeezeForward a ax = some y) :
    IsAdjoint (R := R) a.shape y.shape (fun v => squeezeForward v ax) (fun g => squeezeBackward g a.shape) := by
  obtain ⟨s', hs', hv'⟩ := squeezeForward_inv a y ax h
  exact isAdjoint_of_reshape s' hs' hv' ha h

/-- unsqueeze(int | tuple) -/
theorem unsqueeze_vjp (a y : NDArray R) (axes : List Int) (ha : a.WF) (h : unsqueezeForward a axes = some y) :
    IsAdjoint (R := R) a.shape y.shape (fun v => unsqueezeForward v axes) (fun g => unsqueezeBackward g axes) := by
  rw [unsqueezeForward, expandDims_eq, Option.map_eq_some_iff] at h
  obtain ⟨ax, h0, rfl⟩ := h
  obtain ⟨hnd, hlt, hlen⟩ := Proofs.SpecOps.normAxes_inv h0
  have hone : ∀ k ∈ ax, (expandShape ax 0 (a.shape.length + axes.length) a.shape).getD k 0 = 1 :=
    fun k hk => expandShape_one ax _ 0 _ k (hlt k hk) (by rwa [Nat.zero_add])
  have hdrop := dropAxes_expandShape (sh := a.shape) hnd hlt (by rw [hlen])
  -- the result shape has 1 at the axes named and drops to the operand's shape, so both ways are reshapes
  refine (reshapeTo_adj a.shape _ ((congrArg Shape.size hdrop).symm.trans (size_dropAxes _ ax hone))).congr ?_ ?_
  · intro v _ hvs
    rw [unsqueezeForward, expandDims_eq, hvs, h0]
    rfl
  · intro g _ hgs
    show squeezeAxes g axes = _
    rw [squeezeAxes_of g axes ax (by rw [hgs, expandShape_length]; exact h0) (by rw [hgs]; exact hone), hgs, hdrop]

/-- Tensor.unfold(dimension, size, step): overlapping windows, so backward really scatter-adds -/
theorem unfold_dim_vjp (a y : NDArray R) (d sz st : Int) (ha : a.WF) (h : unfoldDimForward a d sz st = some y) :
    IsAdjoint (R := R) a.shape y.shape (fun v => unfoldDimForward v d sz st) (fun g => unfoldDimBackward g a.shape d sz st) := by
  obtain ⟨⟨d', sz', st', cnt⟩, h0, h⟩ := Option.bind_eq_some_iff.1 h
  rw [← Option.some.inj h]
  obtain ⟨_, _, hsz, hcnt⟩ := unfoldDimCheck_inv h0
  apply isAdjoint_of_gather_scatter a.shape _ (unfoldDimMap d' st')
  · exact unfoldDimMap_valid a.shape d' sz' st' cnt hsz hcnt
  · intro v _ hvs
    simp only [unfoldDimForward, hvs, h0]
    rfl
  · intro g _ hgs
    simp only [unfoldDimBackward, h0, hgs, Option.bind_eq_bind, Option.bind_some, Option.pure_def]

/-- indexing: ints, slices with any step, ellipsis, newaxis, one integer list *with repeats*
    (where the backward must accumulate) -/
theorem slice_vjp (a y : NDArray R) (sels : List Sel) (ha : a.WF) (h : sliceForward a sels = some y) :
    IsAdjoint (R := R) a.shape y.shape (fun v => sliceForward v sels) (fun g => sliceBackward g a.shape sels) := by
  obtain ⟨rs, h0, h⟩ := Option.bind_eq_some_iff.1 h
  rw [← Option.some.inj h]
  apply isAdjoint_of_gather_scatter a.shape _ (indexMap rs)
  · exact indexMap_valid a.shape sels rs h0
  · intro v _ hvs
    simp only [sliceForward, hvs, h0]
    rfl
  · intro g _ hgs
    simp only [sliceBackward, h0]
    rfl

theorem neg_vjp (s : Shape) :
    IsAdjoint (R := R) s s (fun v => some (negForward v)) (fun g => some (negBackward g)) := by
  intro v g hv hvs hg hgs
  refine ⟨_, _, rfl, rfl, Proofs.Calc.map_wf _ _ hv, hvs, Proofs.Calc.map_wf _ _ hg, hgs, ?_⟩
  simp only [Proofs.Core.dot_eq_sum, negForward, negBackward, Proofs.Calc.get_map0 _ neg_zero, neg_mul, mul_neg]
  rfl

theorem clone_vjp (s : Shape) :
    IsAdjoint (R := R) s s (fun v => some (cloneForward v)) (fun g => some (cloneBackward g)) := by
  intro v g hv hvs hg hgs
  exact ⟨v, g, rfl, rfl, hv, hvs, hg, hgs, rfl⟩

/-- add, every broadcasting pattern: the linear part in each operand (the other operand set to zero) -/
theorem add_vjp (a b y : NDArray R) (ha : a.WF) (hb : b.WF) (h : addForward a b = some y) :
    IsAdjoint (R := R) a.shape y.shape (fun v => addForward v (zeros b.shape)) (fun g => some (addBackward g a.shape b.shape).1) ∧
    IsAdjoint (R := R) b.shape y.shape (fun v => addForward (zeros a.shape) v) (fun g => some (addBackward g a.shape b.shape).2) :=
  ⟨add_adj_left a b y h, add_adj_right a b y h⟩

theorem mul_vjp (a b y : NDArray R) (ha : a.WF) (hb : b.WF) (h : mulForward a b = some y) :
    IsAdjoint (R := R) a.shape y.shape (fun v => mulForward v b) (fun g => (mulBackward g a b).map (·.1)) ∧
    IsAdjoint (R := R) b.shape y.shape (fun v => mulForward a v) (fun g => (mulBackward g a b).map (·.2)) :=
  ⟨mul_adj_left a b y h, mul_adj_right a b y h⟩

/-- sum over None / an int / a tuple of dims (negative entries allowed), keepdims or not -/
theorem sum_vjp (a y : NDArray R) (ax : Axes) (keep : Bool) (ha : a.WF) (h : sumForward a ax keep = some y) :
    IsAdjoint (R := R) a.shape y.shape (fun v => sumForward v ax keep) (fun g => sumBackward g a.shape ax keep) :=
  sum_adj a y ax keep h

/-- **sum of a 0-d tensor along dim 0 / −1** (the one input `sum` accepts that names no existing axis;
    covered by `sum_vjp`, spelled out): forward is the identity, backward is the identity — with and
    without `keepdims`, the result and the gradient are 0-d. -/
theorem sum_zero_dim_vjp (a g : NDArray R) (ha : a.WF) (has : a.shape = []) (hg : g.WF) (hgs : g.shape = [])
    (d : Int) (hd : d = 0 ∨ d = -1) (keep : Bool) :
    sumForward a (.one d) keep = some a ∧ sumBackward g a.shape (.one d) keep = some g ∧
    IsAdjoint (R := R) a.shape a.shape (fun v => sumForward v (.one d) keep)
      (fun g => sumBackward g a.shape (.one d) keep) :=
  ⟨sum_zero_dim a ha has d hd keep, has ▸ sum_zero_dim_backward g hg hgs d hd keep,
    sum_adj a a (.one d) keep (sum_zero_dim a ha has d hd keep)⟩

theorem matmul_vjp (a b y : NDArray R) (ha : a.WF) (hb : b.WF) (h : matmulForward a b = some y) :
    IsAdjoint (R := R) a.shape y.shape (fun v => matmulForward v b) (fun g => (matmulBackward g a b).map (·.1)) ∧
    IsAdjoint (R := R) b.shape y.shape (fun v => matmulForward a v) (fun g => (matmulBackward g a b).map (·.2)) :=
  ⟨matmul_adj_left a b y h, matmul_adj_right a b y h⟩

/-- addmm(a, b, c) = a + b @ c, each of the three operands, for `b`, `c` of rank 2 (`addmm_backward` in
    cpu_ops.py un-broadcasts the gradient of the product to `(b.shape[0], c.shape[1])`) -/
theorem addmm_vjp (a b c y : NDArray R) (ha : a.WF) (hb : b.WF) (hc : c.WF) (h : addmmForward a b c = some y)
    (hb2 : b.shape.length = 2) (hc2 : c.shape.length = 2) :
    IsAdjoint (R := R) a.shape y.shape (fun v => addmmForward v (zeros b.shape) c) (fun g => (addmmBackward g a b c).map (·.1)) ∧
    IsAdjoint (R := R) b.shape y.shape (fun v => addmmForward (zeros a.shape) v c) (fun g => (addmmBackward g a b c).map (·.2.1)) ∧
    IsAdjoint (R := R) c.shape y.shape (fun v => addmmForward (zeros a.shape) b v) (fun g => (addmmBackward g a b c).map (·.2.2)) :=
  ⟨addmm_adj_a a b c y h hb2 hc2, addmm_adj_b a b c y h hb2 hc2, addmm_adj_c a b c y h hb2 hc2⟩

/-- unbind: output `k` is linear in the operand; its transpose places the gradient at position `k` -/
theorem unbind_vjp (a : NDArray R) (axis : Int) (ys : List (NDArray R)) (ha : a.WF)
    (h : unbindForward a axis = some ys) (k : Nat) (yk : NDArray R) (hk : ys[k]? = some yk) :
    IsAdjoint (R := R) a.shape yk.shape (fun v => (unbindForward v axis).bind (·[k]?))
      (fun g => unbindBackward g a.shape axis k) := by
  have hyk : (unbind a axis).bind (·[k]?) = some yk := (congrArg (Option.bind · _) h).trans hk
  rw [unbind_get] at hyk
  obtain ⟨a0, hn, hyk⟩ := Option.bind_eq_some_iff.1 hyk
  split_ifs at hyk with hk'
  rw [← Option.some.inj hyk]
  have hsa := insertAt_eraseIdx a.shape a0 0 (Proofs.SpecOps.normAxis_lt hn)
  refine ((take_place_adj (a.shape.eraseIdx a0) a0 _ k ?_ hk').congr ?_ ?_).of_shape_eq hsa
    (dropAxes_single _ _).symm
  · rw [List.length_eraseIdx_of_lt (Proofs.SpecOps.normAxis_lt hn)]
    exact Nat.le_sub_one_of_lt (Proofs.SpecOps.normAxis_lt hn)
  · intro v _ hvs
    show (unbind v axis).bind _ = _
    rw [unbind_get, hvs, hsa, hn]
    exact if_pos hk'
  · intro g _ _
    simp only [unbindBackward, hn, hsa]
    rfl

/-- stack of `n` arrays of one shape, operand `k` (the others held at zero) -/
theorem stack_vjp (xs : List (NDArray R)) (axis : Int) (y : NDArray R) (hxs : ∀ x ∈ xs, x.WF)
    (h : stackForward xs axis = some y) (k : Nat) (xk : NDArray R) (hk : xs[k]? = some xk) :
    IsAdjoint (R := R) xk.shape y.shape
      (fun v => stackForward ((xs.map (fun x => zeros x.shape)).set k v) axis)
      (fun g => (stackBackward g axis).bind (·[k]?)) := by
  obtain ⟨s0, a0, hne, hall, hn, hy⟩ := stack_inv xs axis y h
  have hkl : k < xs.length := (List.getElem?_eq_some_iff.1 hk).1
  have hxk : xk.shape = s0 := hall xk (List.mem_of_getElem? hk)
  have ha0 : a0 ≤ s0.length := Nat.le_of_lt_succ (Proofs.SpecOps.normAxis_lt hn)
  -- output `k` of the unbind of the gradient is a `take`; the stack of zeros except `v` is its transpose
  refine ((take_place_adj s0 a0 xs.length k ha0 hkl).congr ?_ ?_).symm.of_shape_eq hxk.symm hy.symm
  · intro g _ hgs
    show (unbind g axis).bind _ = _
    rw [unbind_get, hgs, length_insertAt, hn, Option.bind_some, getD_insertAt _ _ _ _ ha0]
    exact if_pos hkl
  · intro v _ hvs
    exact stack_set_zeros xs axis s0 a0 hall hn k v hkl hvs

/-- concat along any dim, operand `k` -/
theorem concat_vjp (xs : List (NDArray R)) (axis : Int) (y : NDArray R) (hxs : ∀ x ∈ xs, x.WF)
    (h : concatForward xs axis = some y) (k : Nat) (xk : NDArray R) (hk : xs[k]? = some xk) :
    IsAdjoint (R := R) xk.shape y.shape
      (fun v => concatForward ((xs.map (fun x => zeros x.shape)).set k v) axis)
      (fun g => (concatBackward g (xs.map (·.shape)) axis).bind (·[k]?)) := by
  obtain ⟨r0, a0, hne, ha0, hn, hall, hy⟩ := concat_inv xs axis y h
  have hxk : xk.shape = insertAt r0 a0 (xk.shape.getD a0 0) := hall xk (List.mem_of_getElem? hk)
  have hoff := sum_take_add_le (fun x => x.shape.getD a0 0) xs k xk hk
  -- piece `k` of the split gradient reads a window; the concatenation of zeros except `v` is its transpose
  refine ((shift_place_adj r0 a0 _ _ _ ha0 hoff).congr ?_ ?_).symm.of_shape_eq hxk.symm hy.symm
  · intro g _ hgs
    rw [concatBackward_get g xs axis r0 a0 _ hgs hn k xk hk, ← hxk]
  · intro v _ hvs
    exact concat_set_zeros xs axis r0 a0 ha0 hn hall k xk v hk (hvs.trans hxk.symm)

/-- mean over None / int / tuple dims (negative entries inside tuples included), over any field -/
theorem mean_vjp {K : Type} [Field K] (a y : NDArray K) (ax : Axes) (keep : Bool) (ha : a.WF)
    (h : meanForward a ax keep = some y) :
    IsAdjoint (R := K) a.shape y.shape (fun v => meanForward v ax keep) (fun g => meanBackward g a.shape ax keep) := by
  rw [meanForward_eq] at h
  obtain ⟨axes, hn, rfl⟩ := Option.map_eq_some_iff.1 h
  have hs := (sumForward_eq a ax keep).trans (congrArg (Option.map _) (normRed_of_norm hn))
  -- the sum divided by the number of reduced elements; backward divides the broadcast gradient by the same count
  refine ((sum_adj a _ ax keep hs).map_mul
    ((((axes.map (fun k => a.shape.getD k 0)).foldr (· * ·) 1 : Nat) : K))⁻¹).congr ?_ ?_
  · intro v _ hvs
    rw [meanForward_eq, sumForward_eq, hvs, hn, normRed_of_norm hn]
    simp only [div_eq_mul_inv]
    rfl
  · intro g _ _
    simp only [meanBackward, sumBackward, hn, normRed_of_norm hn, Option.bind_eq_bind, Option.bind_some,
      Option.pure_def, div_eq_mul_inv, Option.map_some]

/-! ### pointwise transcendental ops, over ℝ

`PointwiseVJP fwd bwd φ φ' dom`: `fwd` applies `φ` element-wise, `HasDerivAt φ (φ' x) x` on `dom`, and
`bwd g a` returns (an array of the operand's shape holding) `g[i] · φ'(a[i])` — the product of the
upstream gradient with the diagonal Jacobian. -/
section Calc
open Proofs.Calc

theorem exp_vjp : PointwiseVJP expForward (fun g a => expBackward g (expForward a)) Real.exp Real.exp (fun _ => True) :=
  pointwiseVJP_of_out Real.exp (· * ·) (fun _ => rfl) (fun _ _ => rfl) (fun _ => rfl)
    (fun _ _ => rfl) (fun x _ => Real.hasDerivAt_exp x)

/-- `log` as the code computes it: `log(x + 1e-12)` with derivative `1/(x + 1e-12)` -/
theorem log_vjp : PointwiseVJP logForward logBackward (fun x => Real.log (x + (epsilon : ℝ))) (fun x => 1 / (x + (epsilon : ℝ)))
    (fun x => x + (epsilon : ℝ) ≠ 0) :=
  pointwiseVJP_of_in (fun x => Real.log (x + (epsilon : ℝ))) (fun gv x => gv / (x + (epsilon : ℝ)))
    (fun _ => rfl) (fun _ _ => rfl) (fun _ => rfl) (fun gv x => div_eq_mul_one_div gv _) (fun _ hx => hasDerivAt_log_eps hx)

theorem sqrt_vjp : PointwiseVJP sqrtForward (fun g a => sqrtBackward g (sqrtForward a)) Real.sqrt (fun x => 1 / (2 * Real.sqrt x))
    (fun x => 0 < x) :=
  pointwiseVJP_of_out Real.sqrt (fun gv o => gv / (((2 : Nat) : ℝ) * o))
    (fun _ => rfl) (fun _ _ => rfl) (fun _ => rfl) (fun gv x => by push_cast; ring) (fun _ hx => Real.hasDerivAt_sqrt hx.ne')

/-- `x ** n`, integer and fractional exponents, on `x ≠ 0 ∨ 1 ≤ n` -/
theorem pow_vjp (n : ℝ) : PointwiseVJP (fun a => powForward a n) (fun g a => powBackward g a n) (fun x => x ^ n)
    (fun x => n * x ^ (n - 1)) (fun x => x ≠ 0 ∨ 1 ≤ n) :=
  pointwiseVJP_of_in (fun x => x ^ n) (fun gv x => n * x ^ (n - (1 : ℝ)) * gv)
    (fun _ => rfl) (fun _ _ => rfl) (fun _ => rfl) (fun _ _ => mul_comm _ _) (fun _ hx => Real.hasDerivAt_rpow_const hx)

/-- `n ** x` for a base `n > 0` -/
theorem rpow_vjp (n : ℝ) (hn : 0 < n) : PointwiseVJP (fun a => rpowForward a n) (fun g a => rpowBackward g (rpowForward a n) n)
    (fun x => n ^ x) (fun x => n ^ x * Real.log n) (fun _ => True) :=
  pointwiseVJP_of_out (fun x => n ^ x) (fun gv o => (o * Real.log n) * gv)
    (fun _ => rfl) (fun _ _ => rfl) (fun _ => rfl) (fun _ _ => mul_comm _ _) (fun x _ => (Real.hasStrictDerivAt_const_rpow hn x).hasDerivAt)

end Calc

/-! ### max / min : where the function is not differentiable (ties) any valid subgradient is acceptable

The kernel sends the upstream gradient of every output element to exactly one element of its fibre,
that element attains the extremum (`max_selects_argmax`), nothing else receives anything
(`max_vjp_subgradient`), backward is total (`max_backward_completes`), and "one-hot at an arg-max" is a
subgradient of `max` at *any* arg-max (`one_hot_at_argmax_is_subgradient`), so every choice among ties is valid. -/
section MaxMin
open Proofs.Subgrad
variable {K : Type} [Field K] [LinearOrder K] [IsStrictOrderedRing K]

theorem max_selects_argmax (a y : NDArray K) (ha : a.WF) (dim : Option Int) (keep : Bool) (h : maxForward a dim keep = some y)
    (axes : List Nat) (hax : (match dim with | none => Axes.all | some d => Axes.one d).normRed a.shape.length = some axes)
    (o : Idx) (ho : validIdx y.shape o) :
    let j := argExt (fun x y => decide (y < x)) a axes keep o
    validIdx a.shape j ∧ reduceIdx axes keep j = o ∧ y.get o = a.get j ∧
    ∀ i, validIdx a.shape i → reduceIdx axes keep i = o → a.get i ≤ a.get j :=
  by
  exact argExt_spec (fun x y => x ≤ y) le_total (fun _ _ _ => le_trans) _ (fun x y => by simp)
    a y dim keep h axes hax o ho

theorem max_vjp_subgradient (a y g b : NDArray K) (ha : a.WF) (dim : Option Int) (keep : Bool)
    (h : maxForward a dim keep = some y) (hg : g.WF) (hgs : g.shape = y.shape)
    (hb : maxBackward g a dim keep = some b)
    (axes : List Nat) (hax : (match dim with | none => Axes.all | some d => Axes.one d).normRed a.shape.length = some axes) :
    b.shape = a.shape ∧ ∀ i, validIdx a.shape i →
      b.get i = if argExt (fun x y => decide (y < x)) a axes keep (reduceIdx axes keep i) = i
                then g.get (reduceIdx axes keep i) else 0 :=
  by
  obtain ⟨_, rfl⟩ := extForward_inv _ a y dim keep h axes hax
  simpa only [mul_one, mul_zero] using extBackward_masked _ a g b dim keep hb axes hax hgs

theorem max_backward_completes (a y g : NDArray K) (ha : a.WF) (dim : Option Int) (keep : Bool)
    (h : maxForward a dim keep = some y) (hg : g.WF) (hgs : g.shape = y.shape) :
    ∃ b, maxBackward g a dim keep = some b ∧ b.shape = a.shape :=
  (extForward_axes _ a y dim keep h).elim fun axes hax => extBackward_total _ a g dim keep axes hax

theorem one_hot_at_argmax_is_subgradient (ι : Type) (s : List ι) (x x' : ι → K) (j : ι) (hj : j ∈ s)
    (hmax : ∀ i ∈ s, x i ≤ x j) (m' : K) (hm' : ∀ i ∈ s, x' i ≤ m') : x j + (x' j - x j) ≤ m' :=
  by
  rw [add_sub_cancel]
  exact hm' j hj

theorem min_vjp_subgradient (a y g b : NDArray K) (ha : a.WF) (dim : Option Int) (keep : Bool)
    (h : minForward a dim keep = some y) (hg : g.WF) (hgs : g.shape = y.shape)
    (hb : minBackward g a dim keep = some b)
    (axes : List Nat) (hax : (match dim with | none => Axes.all | some d => Axes.one d).normRed a.shape.length = some axes) :
    b.shape = a.shape ∧ ∀ i, validIdx a.shape i →
      b.get i = if argExt (fun x y => decide (x < y)) a axes keep (reduceIdx axes keep i) = i
                then g.get (reduceIdx axes keep i) else 0 :=
  by
  obtain ⟨_, rfl⟩ := extForward_inv _ a y dim keep h axes hax
  simpa only [mul_one, mul_zero] using extBackward_masked _ a g b dim keep hb axes hax hgs

/-- **max / min of a 0-d tensor along dim 0 / −1**: the forward value is the operand, the selected
    arg-extremum is the only index `[]`, and backward returns the upstream gradient unchanged (mask 1) -/
theorem max_zero_dim_vjp (a g : NDArray K) (ha : a.WF) (has : a.shape = []) (hg : g.WF) (hgs : g.shape = [])
    (d : Int) (hd : d = 0 ∨ d = -1) (keep : Bool) :
    maxForward a (some d) keep = some a ∧ maxBackward g a (some d) keep = some g :=
  ⟨Proofs.Adjoint.ext_zero_dim _ a ha has d hd keep, Proofs.Adjoint.ext_zero_dim_backward _ g a hg hgs has d hd keep⟩

theorem min_zero_dim_vjp (a g : NDArray K) (ha : a.WF) (has : a.shape = []) (hg : g.WF) (hgs : g.shape = [])
    (d : Int) (hd : d = 0 ∨ d = -1) (keep : Bool) :
    minForward a (some d) keep = some a ∧ minBackward g a (some d) keep = some g :=
  ⟨Proofs.Adjoint.ext_zero_dim _ a ha has d hd keep, Proofs.Adjoint.ext_zero_dim_backward _ g a hg hgs has d hd keep⟩

end MaxMin

/-! ### Non-vacuity of the 0-d branch of sum / max / min (dim 0 / −1 accepted, gradient returned unchanged) -/
example : sumForward (⟨[], [3]⟩ : NDArray Int) (.one 0) false = some ⟨[], [3]⟩ := rfl
example : sumBackward (⟨[], [5]⟩ : NDArray Int) [] (.one (-1)) true = some ⟨[], [5]⟩ := rfl
example : maxBackward (⟨[], [5]⟩ : NDArray Int) ⟨[], [3]⟩ (some 0) false = some ⟨[], [5]⟩ := rfl
example : minBackward (⟨[], [5]⟩ : NDArray Int) ⟨[], [3]⟩ (some (-1)) true = some ⟨[], [5]⟩ := rfl
/-- the hypotheses of `max_vjp_subgradient` are satisfiable on the 0-d branch: `axes = []` -/
example : (match (some (-1) : Option Int) with | none => Axes.all | some d => Axes.one d).normRed
    (⟨[], [3]⟩ : NDArray Int).shape.length = some [] := rfl

/-! ### Non-vacuity: a concrete broadcast (2×1×3 ⊕ 3), a movedim 0→2 on 2×3×4, a slice `[::-2, …, None, [0,0,1]]` are accepted -/
example : (addForward (α := Int) (ofFn [2, 1, 3] (fun i => (i.getD 0 0 : Int) + i.getD 2 0)) (ofFn [3] (fun i => (i.getD 0 0 : Int)))).map (·.shape)
    = some [2, 1, 3] := by decide
example : (movedimForward (α := Int) (zeros [2, 3, 4]) 0 2).map (·.shape) = some [3, 4, 2] := by decide
example : (sliceForward (α := Int) (zeros [3, 2, 2]) [.slice none none (-2), .ellipsis, .newaxis, .list [0, 0, 1]]).map (·.shape)
    = some [2, 2, 1, 3] := by decide

end Props.C01
