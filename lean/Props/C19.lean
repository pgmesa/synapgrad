import SynapModel.Rng
import SynapModel.Generated.RandomSites
import SynapModel.Generated.PersistentSites
/-!
# C19 — Results are reproducible under manual_seed and independent of hash order (logical core)

What a theorem can carry: (1) every call site in the package that can draw randomness or read
process-dependent state draws from the generators `manual_seed` seeds (re-checked against the
source on every run); (2) a run whose steps ignore the environment is a function of the seed
alone; (3) every modelled API draws only through seeded generator functions; (4) the places where
state can outlive a call (listed from the source on every run) are the documented ones.  Bit-reproducibility
of NumPy/BLAS itself and allocation layout are runtime behaviour, observed by the double-run check.
-/
namespace Props.C19
open Synap.Rng Synap.OpTable Synap.Generated

/-- **Every random / process-dependent call site in synapgrad is a seeded global generator** (or an
    `id()` used only for set membership).  Regenerated from the source on every run. -/
theorem randomsites_seeded : randomSites.all siteOk = true := by decide +kernel

/-- the table is not empty (the extractor did find the known sites) -/
theorem randomsites_nonempty : 5 ≤ randomSites.length := by decide +kernel

/-- **The only state that outlives a call is the documented one.**  "Results do not depend on how often the computation has
    been repeated" fails exactly when some call leaves state behind for the next one.  Every place in the package where that
    is possible at all — a module-level or class-level mutable object, a mutable default argument, a memoising decorator, a
    `global` statement — is listed by the extractor on every run; the theorem says the list holds nothing but the two engine
    flags, the lazily resolved imports and one read-only default.  A cache, a pooled buffer or a shared default list added
    to the source breaks this obligation before any input exhibits it. -/
theorem persistent_state_is_the_documented_one : persistentSites.all persistentOk = true := by decide +kernel

/-- the extractor did find the known sites (both engine flags) -/
theorem persistentsites_nonempty :
    (persistentSites.filter (fun s => s.name == "gradient__")).length ≥ 1 ∧
    (persistentSites.filter (fun s => s.name == "retain_grads__")).length ≥ 1 := by decide +kernel

/-- **Every modelled API call draws only through generator functions that `manual_seed` seeds.** -/
theorem draws_seeded (a : Api) : ∀ d ∈ draws a, d.1 ∈ seededFns := by
  cases a <;> simp [draws, seededFns]

variable {σ ε ω : Type}

/-- **Seeded non-interference.**  If no step looks at the environment (hash seed, addresses, time,
    how often the computation ran before) then two runs from the same generator state produce the
    same outputs and leave the same state, in any two environments. -/
theorem seeded_noninterference (steps : List (Step σ ε ω)) (h : ∀ st ∈ steps, EnvFree st)
    (s : σ) (e e' : ε) : run steps s e = run steps s e' := by
  unfold run
  generalize (([], s) : List ω × σ) = acc
  induction steps generalizing acc with
  | nil => rfl
  | cons st rest ih =>
    rw [List.foldl_cons, h st List.mem_cons_self acc.2 e e']
    exact ih (fun t ht => h t (List.mem_cons_of_mem _ ht)) _

/-- `run` is a function of steps, generator state and environment; the statement is no more than `rfl` -/
theorem run_deterministic (steps : List (Step σ ε ω)) (s : σ) (e : ε) : run steps s e = run steps s e := rfl

example : draws (.linear 3 4 true) = [("uniform", 12), ("uniform", 4)] := by decide +kernel

end Props.C19
