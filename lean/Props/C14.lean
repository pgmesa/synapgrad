import SynapModel.Ops
import Props.C14Formulas
import Proofs.SpecNNLoss
import Proofs.FusedIdentities
import Proofs.FusedModules
import Props.C01
import Proofs.Fused1d
/-!
# C14 — Fused operations equal the compositions their documentation equates them with

Value identities on the model, for all operand shapes and values.  The gradients of both sides
then coincide because both are vector-Jacobian products of the same function: this argument is the pair of theorems
`grad_eq_of_forward_eq` (an instance of `Props.C01.vjp_unique`) / `vjp_grad_eq_of_forward_eq` below, instantiated for linear; for
cross-entropy and mean the two backward kernels are compared entry by entry; on the implementation both sides' values and
gradients are compared by the check.

Identities through the library's `1e-12` guard are stated as they are: `log_softmax = log ∘ softmax` is exact for the
mathematical logarithm and strictly off for the library's `log`; `BCE-with-logits = BCE ∘ sigmoid` is FALSE as an
equality (the negation is proved), the exact relation and its `ε`-bound are theorems.
-/
namespace Props.C14
open Synap Synap.NDArray Synap.Np Synap.Kernels Synap.Api Synap.Ops Proofs.Core Proofs.SpecNN

variable {α : Type} [Zero α] [One α] [Add α] [Sub α] [Mul α] [Div α] [Neg α] [NatCast α]
  [OfScientific α] [LT α] [DecidableLT α] [LE α] [DecidableLE α] [Transc α]

/-- **linear = x @ W.T + b** (and `x @ W.T` without bias); **addmm = a + b @ c**. -/
theorem linear_is_addmm (x w b : NDArray α) :
    linearForward x w (some b) = (swapaxes w 0 1).bind (fun wt => (matmul x wt).bind (fun m => addForward b m)) ∧
    linearForward x w none = (swapaxes w 0 1).bind (fun wt => matmul x wt) ∧
    (∀ a c, addmmForward a x c = (matmul x c).bind (fun m => addForward a m)) :=
  ⟨rfl, rfl, fun _ _ => rfl⟩

/-- **cross-entropy = NLL of log_softmax** (over dim 1 of a 2-d input). -/
theorem cross_entropy_is_nll_log_softmax (x : NDArray α) (labels : List Nat) (h2 : x.shape.length = 2) :
    crossEntropyForward x labels = (logSoftmaxForward x 1).bind (fun ls => nllForward ls labels) := by
  rw [Proofs.NL.crossEntropyForward_eq, if_pos h2]

/-- **mean = sum / count** -/
theorem mean_is_sum_div_count (x : NDArray α) (ax : Axes) (keep : Bool) (axes : List Nat)
    (h : ax.norm x.shape.length = some axes) :
    meanForward x ax keep = (sumForward x ax keep).map (fun s => s.map (· / (((axes.map (fun k => x.shape.getD k 0)).foldr (· * ·) 1 : Nat) : α))) := by
  rw [Proofs.Adjoint.meanForward_eq, Proofs.Adjoint.sumForward_eq, h, Proofs.Adjoint.normRed_of_norm h]
  rfl

/-- **flatten = reshape** to the merged shape -/
theorem flatten_is_reshape (x : NDArray α) (s e : Int) :
    flattenForward x s e = (flattenTarget x.shape s e).bind (fun t => reshapeForward x t) := by
  rfl

/-- **a − b = a + (−b)** with `−b = b * −1` -/
theorem sub_is_add_neg (st : TState α) (a b : Nat) :
    applySOp st .subT a (.inl b) =
      (scalarOperand st (-1) b).bind (fun (st1, S) => (one1 (apply st1 .mul [b, S])).bind (fun (st2, m) => one1 (apply st2 .add [a, m]))) := by
  rfl

/-- **a / b = a * b ** −1** -/
theorem div_is_mul_pow (st : TState α) (a b : Nat) :
    applySOp st .divT a (.inl b) = (one1 (apply st (.pow (-1)) [b])).bind (fun (st1, p) => one1 (apply st1 .mul [a, p])) := by
  rfl

variable {R : Type} [CommRing R]

/-- **stack = concat of the unsqueezed operands** -/
theorem stack_is_concat_unsqueeze (xs : List (NDArray R)) (hxs : ∀ x ∈ xs, x.WF) (axis : Int) (y : NDArray R)
    (h : stackForward xs axis = some y) :
    ∃ us, xs.mapM (fun x => unsqueezeForward x [axis]) = some us ∧ concatForward us axis = some y :=
  stack_is_concat_expand xs axis y h

/-- **unbind inverts stack** -/
theorem unbind_inverts_stack (xs : List (NDArray R)) (hxs : ∀ x ∈ xs, x.WF) (hne : xs ≠ []) (axis : Int) (y : NDArray R)
    (h : stackForward xs axis = some y) : unbindForward y axis = some xs :=
  Proofs.Adjoint.unbind_stack xs hxs axis y h

/-- **movedim between adjacent dims = transpose** -/
theorem movedim_adjacent_is_transpose (x : NDArray R) (a : Nat) (ha : a + 1 < x.shape.length) :
    movedimForward x a (a + 1 : Nat) = transposeForward x a (a + 1 : Nat) ∧
    movedimForward x (a + 1 : Nat) a = transposeForward x a (a + 1 : Nat) := by
  have h0 : normAxis x.shape.length (a : Int) = some a := Proofs.Adjoint.normAxis_natCast _ _ (by omega)
  have h1 : normAxis x.shape.length ((a + 1 : Nat) : Int) = some (a + 1) := Proofs.Adjoint.normAxis_natCast _ _ ha
  obtain ⟨e1, e2⟩ := Proofs.Adjoint.moveaxisPerm_adjacent x.shape.length a ha
  simp only [movedimForward, transposeForward, moveaxis, swapaxes, h0, h1, Option.bind_eq_bind,
    Option.bind_some, e1, e2, and_self]

/-! ### convolution = unfold + matrix product; pooling = unfold + mean / max (statements and proofs in `Proofs/SpecNN.lean`)

* `conv2d_is_unfold_matmul`   for accepted arguments the four steps the documentation names are all accepted and
  `reshape(matmul(reshape w (C_out, C·kH·kW), unfold x), (N, C_out, H_out, W_out))` IS the result of `conv2d x w`
* `avgpool2d_is_unfold_mean`  `avg_pool2d x = reshape(mean over axis 2 of reshape(unfold x, (N, C, kH·kW, L)))`
* `maxpool2d_is_unfold_max`   the same with −∞ padding and `max` (needs N, C ≠ 0 — `max` rejects empty operands — and −∞ ≤ every entry) -/
alias conv2d_is_unfold_matmul := Proofs.SpecNN.conv2d_is_unfold_matmul
alias avgpool2d_is_unfold_mean := Proofs.SpecNN.avgpool2d_is_unfold_mean
alias maxpool2d_is_unfold_max := Proofs.SpecNN.maxpool2d_is_unfold_max

/-! ## 1-d convolution and pooling  (statements and proofs in `Proofs/Fused1d.lean`)

The model's 1-d kernels are defined independently of the 2-d ones; the library's `unfold` takes 4-d input only.  So the
1-d identities go through the one-row lift `x[:, :, None, :]`:

* `conv1d_is_conv2d_row`, `avgpool1d_is_avgpool2d_row`, `maxpool1d_is_maxpool2d_row`: for accepted arguments the 2-d kernel
  with kernel `(1,k)`, stride `(1,s)`, padding `(0,p)`, dilation `(1,d)` on the lifted operands is accepted and IS the lifted
  1-d result;
* `conv1d_is_unfold_matmul`, `avgpool1d_is_unfold_mean`, `maxpool1d_is_unfold_max`: hence `unfold` of the lifted input followed
  by the matrix product with the reshaped weight / the mean / the max over the kernel axis, reshaped, IS the lifted 1-d result,
  with the entry formulas `conv1d(x,w)[n,o,t] = Σ_r wmat[o,r]·cols[n,r,t]`, `avg_pool1d(x)[n,c,t] = (Σ_q r4[n,c,q,t]) / k`,
  `max_pool1d(x)[n,c,t]` attained on and dominating `r4[n,c,:,t]` (same guards as in 2-d). -/
alias conv1d_is_conv2d_row := Proofs.Fused1d.conv1d_is_conv2d_row
alias avgpool1d_is_avgpool2d_row := Proofs.Fused1d.avgpool1d_is_avgpool2d_row
alias maxpool1d_is_maxpool2d_row := Proofs.Fused1d.maxpool1d_is_maxpool2d_row
alias conv1d_is_unfold_matmul := Proofs.Fused1d.conv1d_is_unfold_matmul
alias avgpool1d_is_unfold_mean := Proofs.Fused1d.avgpool1d_is_unfold_mean
alias maxpool1d_is_unfold_max := Proofs.Fused1d.maxpool1d_is_unfold_max

/-- non-vacuity: accepted 1-d calls (for max-pooling also the guards, with padding 1 and `−∞ := −100`) -/
example : ∃ y, conv1dForward (⟨[1, 1, 3], [1, 2, 3]⟩ : NDArray Int) ⟨[1, 1, 2], [1, 1]⟩ none 1 0 1 = some y := ⟨_, rfl⟩
example : ∃ y, avgPool1dForward (⟨[1, 1, 3], [1, 2, 3]⟩ : NDArray ℚ) 2 1 0 1 = some y := ⟨_, rfl⟩
example : (∃ y, maxPool1dForward (⟨[1, 1, 3], [1, 2, 3]⟩ : NDArray ℚ) (-100) 2 1 1 1 = some y) ∧
    (⟨[1, 1, 3], [1, 2, 3]⟩ : NDArray ℚ).shape.getD 0 0 ≠ 0 ∧ (⟨[1, 1, 3], [1, 2, 3]⟩ : NDArray ℚ).shape.getD 1 0 ≠ 0 ∧
    ∀ q, validIdx (⟨[1, 1, 3], [1, 2, 3]⟩ : NDArray ℚ).shape q → (-100 : ℚ) ≤ (⟨[1, 1, 3], [1, 2, 3]⟩ : NDArray ℚ).get q := by
  refine ⟨⟨_, rfl⟩, by decide, by decide, fun q hq => ?_⟩
  have h := get_mem_data (⟨[1, 1, 3], [1, 2, 3]⟩ : NDArray ℚ) rfl q hq
  simp only [List.mem_cons, List.not_mem_nil, or_false] at h
  rcases h with h | h | h <;> rw [h] <;> norm_num

/-! ## identities over ℝ through `exp` / `log`  (proofs in `Proofs/FusedIdentities.lean`) -/
section Real
open Proofs.NL Proofs.Fused

/-- **log_softmax = log ∘ softmax** (mathematical `Real.log`), as arrays, for EVERY real array of any rank and any
    axis: the max-shifted `x − m − log Σ exp(x − m)` the kernel evaluates is the logarithm of every entry of the
    max-shifted quotient `exp(x − m) / Σ exp(x − m)`; the two kernels also reject exactly the same calls (axis out
    of range — on a 0-d operand every `dim` other than `0` / `−1`; there both accept and the sides are `0`, `log 1` —,
    empty axis), so there is no hypothesis. -/
theorem log_softmax_is_log_softmax (x : NDArray ℝ) (axis : Int) :
    logSoftmaxForward x axis = (softmaxForward x axis).map (fun s => s.map Real.log) :=
  Proofs.Fused.log_softmax_is_log_softmax x axis

/-- non-vacuity: an accepted call (both sides are `some`) -/
example : ∃ s, softmaxForward (⟨[2, 2], [1, 2, 3, 4]⟩ : NDArray ℝ) (-1) = some s :=
  (Proofs.SpecNN.softmax_accepts_iff _ _).1.2 (Or.inr ⟨1, rfl, by decide⟩)
/-- the 0-d case (`dim` 0 / −1 on a 0-d operand, accepted by both kernels): `0 = log 1` -/
example : logSoftmaxForward (⟨[], [3]⟩ : NDArray ℝ) 0 = some ⟨[], [0]⟩ ∧
    (softmaxForward (⟨[], [3]⟩ : NDArray ℝ) 0).map (fun s => s.map Real.log) = some ⟨[], [Real.log 1]⟩ :=
  ⟨Proofs.NL.log_softmax_zero_dim _ rfl 0 (Or.inl rfl), by rw [Proofs.NL.softmax_zero_dim _ rfl 0 (Or.inl rfl)]; rfl⟩

/-- the same entry by entry on the accepted calls (valid axis, non-empty along it); every softmax entry is positive, so
    `Real.log` is taken where it is the logarithm -/
theorem log_softmax_entries (x : NDArray ℝ) (axis : Int) (ax : Nat)
    (hax : normAxis x.shape.length axis = some ax) (hn : x.shape.getD ax 0 ≠ 0) :
    ∃ ls s, logSoftmaxForward x axis = some ls ∧ softmaxForward x axis = some s ∧
      ls.WF ∧ s.WF ∧ ls.shape = x.shape ∧ s.shape = x.shape ∧
      ∀ i, validIdx x.shape i → 0 < s.get i ∧ ls.get i = Real.log (s.get i) :=
  Proofs.Fused.log_softmax_entries x axis ax hax hn

example : ∃ ax, normAxis (⟨[2, 2], [1, 2, 3, 5]⟩ : NDArray ℝ).shape.length (-1) = some ax ∧
    (⟨[2, 2], [1, 2, 3, 5]⟩ : NDArray ℝ).shape.getD ax 0 ≠ 0 := ⟨1, rfl, Nat.succ_ne_zero 1⟩

/-- **the LIBRARY's `log` of softmax is not log_softmax**: `log` computes `log(x + 1e-12)` (by design, DESIGN §12.4 D15),
    so on every accepted call and at every entry `log(softmax(x))[i] = log_softmax(x)[i] + Real.log (1 + ε / softmax(x)[i])`:
    strictly larger than `log_softmax(x)[i]`, by at most `ε / softmax(x)[i]` (`ε = 1e-12`). -/
theorem library_log_of_softmax (x : NDArray ℝ) (axis : Int) (ax : Nat)
    (hax : normAxis x.shape.length axis = some ax) (hn : x.shape.getD ax 0 ≠ 0) :
    ∃ ls s, logSoftmaxForward x axis = some ls ∧ softmaxForward x axis = some s ∧
      (logForward s).shape = ls.shape ∧
      ∀ i, validIdx x.shape i →
        (logForward s).get i = ls.get i + Real.log (1 + (epsilon : ℝ) / s.get i) ∧
        ls.get i < (logForward s).get i ∧
        (logForward s).get i - ls.get i ≤ (epsilon : ℝ) / s.get i :=
  Proofs.Fused.library_log_of_softmax x axis ax hax hn

/-- concrete witness: on `x = [0, 0]` the library composition `log(softmax(x))` differs from `log_softmax(x)` -/
theorem library_log_of_softmax_counterexample :
    ∃ (x : NDArray ℝ) (ls s : NDArray ℝ), x.WF ∧ logSoftmaxForward x 0 = some ls ∧ softmaxForward x 0 = some s ∧
      logForward s ≠ ls := by
  obtain ⟨ls, s, h1, h2, _, h⟩ := library_log_of_softmax (⟨[2], [0, 0]⟩ : NDArray ℝ) 0 0 (by decide) (by decide)
  exact ⟨⟨[2], [0, 0]⟩, ls, s, rfl, h1, h2, fun he =>
    (h [0] ⟨Nat.zero_lt_two, trivial⟩).2.1.ne (congrArg (·.get [0]) he).symm⟩

/-- **BCE-with-logits against BCE ∘ sigmoid, exact relation for arbitrary targets and broadcasting operands**: both
    composite kernels are accepted (exactly when the shapes broadcast, `bce_both_reject`), and with
    `gap = t·log(1 + ε/σ(x)) + (1−t)·log(1 + ε/(1−σ(x)))` (`ε = 1e-12`, the guard inside `bceForward`'s two logarithms;
    `Proofs.Fused.bceGap`) entry `i` of `BCE(sigmoid x, t)` is `BCEL(x, t)[i] − gap`, unless that number equals `−log ε`,
    in which case `bceForward`'s clamp turns it into `100`. -/
theorem bce_logits_vs_bce_sigmoid (x y : NDArray ℝ) (hx : x.WF) (s : Shape)
    (hs : broadcastShapes x.shape y.shape = some s) :
    ∃ l r, bceLogitsForward x y = some l ∧ bceForward (sigmoidForward x) y = some r ∧ l.shape = s ∧ r.shape = s ∧
      ∀ i, validIdx s i →
        r.get i = (let gap := bceGap (x.get (bcastIdx x.shape i)) (y.get (bcastIdx y.shape i))
          if l.get i - gap = -(Real.log (epsilon : ℝ)) then 100 else l.get i - gap) :=
  Proofs.Fused.bce_logits_vs_bce_sigmoid x y hx s hs

/-- non-vacuity: a (2,1) logit column against a (2,) target row broadcasts to (2,2) -/
example : (⟨[2, 1], [0.5, -3]⟩ : NDArray ℝ).WF ∧
    broadcastShapes (⟨[2, 1], [0.5, -3]⟩ : NDArray ℝ).shape (⟨[2], [0, 1]⟩ : NDArray ℝ).shape = some [2, 2] :=
  ⟨rfl, rfl⟩

/-- when the shapes do not broadcast, neither side is accepted -/
theorem bce_both_reject (x y : NDArray ℝ) (hs : broadcastShapes x.shape y.shape = none) :
    bceLogitsForward x y = none ∧ bceForward (sigmoidForward x) y = none := by
  have hs' : broadcastShapes (sigmoidForward x).shape y.shape = none := hs
  exact ⟨by rw [bceLogitsForward, bcast2, hs]; rfl, by rw [bceForward, bcast2, hs']; rfl⟩

example : broadcastShapes (⟨[2], [0, 1]⟩ : NDArray ℝ).shape (⟨[3], [0, 1, 1]⟩ : NDArray ℝ).shape = none := rfl

/-- **BCE-with-logits against BCE ∘ sigmoid for targets in `[0,1]`** (a decidable condition on the target entries; over ℝ
    `sigmoid` lies strictly inside `(0,1)`, so `bceForward`'s clamp at `−log ε` is provably inactive): the naive equality
    is FALSE at every entry — `BCE(sigmoid x, t)[i] < BCEL(x, t)[i]` — the deviation is exactly `gap` and at most
    `ε·(t·(1+e^{−x}) + (1−t)·(1+e^{x}))`.  (In float64 `sigmoid` saturates to 0 or 1 for |x| ≳ 37 and the two sides then
    differ by far more; the check therefore compares them on moderate logits only.) -/
theorem bce_logits_vs_bce_sigmoid_unit_targets (x y : NDArray ℝ) (hx : x.WF) (s : Shape)
    (hs : broadcastShapes x.shape y.shape = some s)
    (hy : ∀ i, validIdx s i → 0 ≤ y.get (bcastIdx y.shape i) ∧ y.get (bcastIdx y.shape i) ≤ 1) :
    ∃ l r, bceLogitsForward x y = some l ∧ bceForward (sigmoidForward x) y = some r ∧ l.shape = s ∧ r.shape = s ∧
      ∀ i, validIdx s i →
        l.get i - r.get i = bceGap (x.get (bcastIdx x.shape i)) (y.get (bcastIdx y.shape i)) ∧
        r.get i < l.get i ∧
        l.get i - r.get i ≤ (epsilon : ℝ) * (y.get (bcastIdx y.shape i) * (1 + Real.exp (-(x.get (bcastIdx x.shape i)))) +
          (1 - y.get (bcastIdx y.shape i)) * (1 + Real.exp (x.get (bcastIdx x.shape i)))) := by
  obtain ⟨l, r, h1, h2, h3, h4, h⟩ := bce_both_entries x y hx s hs
  refine ⟨l, r, h1, h2, h3, h4, fun i hi => ?_⟩
  obtain ⟨ht0, ht1⟩ := hy i hi
  obtain ⟨hpos, hle⟩ := bceGap_bounds (x.get (bcastIdx x.shape i)) (y.get (bcastIdx y.shape i)) ht0 ht1
  have hgap := bce_logits_sub_scalar_unit (x.get (bcastIdx x.shape i)) (y.get (bcastIdx y.shape i)) ht0 ht1
  rw [(h i hi).1, (h i hi).2, hgap]
  exact ⟨rfl, sub_pos.1 (hgap ▸ hpos), hle⟩

/-- non-vacuity: logits `[0.5, −3]`, targets `[0, 1]` -/
example : (⟨[2], [0.5, -3]⟩ : NDArray ℝ).WF ∧
    broadcastShapes (⟨[2], [0.5, -3]⟩ : NDArray ℝ).shape (⟨[2], [0, 1]⟩ : NDArray ℝ).shape = some [2] ∧
    ∀ i, validIdx [2] i → 0 ≤ (⟨[2], [0, 1]⟩ : NDArray ℝ).get (bcastIdx [2] i) ∧
      (⟨[2], [0, 1]⟩ : NDArray ℝ).get (bcastIdx [2] i) ≤ 1 := by
  refine ⟨rfl, rfl, fun i hi => ?_⟩
  rcases List.mem_pair.1 (get_mem_data (⟨[2], [0, 1]⟩ : NDArray ℝ) rfl _ (bcastIdx_valid [2] [2] [2] rfl i hi).1) with h | h
  · rw [h]; exact ⟨le_rfl, zero_le_one⟩
  · rw [h]; exact ⟨zero_le_one, le_rfl⟩

/-- the naive equality `BCE-with-logits = BCE ∘ sigmoid` is false of the kernels: logits `[0]`, targets `[1]` -/
theorem bce_logits_ne_bce_sigmoid_counterexample :
    ∃ (x y l r : NDArray ℝ), x.WF ∧ y.WF ∧ bceLogitsForward x y = some l ∧ bceForward (sigmoidForward x) y = some r ∧
      l ≠ r :=
  Proofs.Fused.bce_logits_ne_bce_sigmoid_counterexample

/-- without the guard the identity is exact: `−(t·log σ(x) + (1−t)·log(1−σ(x))) = (1−t)·x + log(1 + e^{−x})`, and the
    right-hand side is what the stabilised with-logits kernel evaluates (`Proofs.NL.bce_logits_scalar_eq`) -/
theorem bce_sigmoid_no_eps (x t : ℝ) :
    -(t * Real.log (sigm x) + (1 - t) * Real.log (1 - sigm x)) = (1 - t) * x + Real.log (1 + Real.exp (-x)) ∧
    bceLogitsScalar x t = (1 - t) * x + Real.log (1 + Real.exp (-x)) :=
  ⟨Proofs.Fused.bce_sigmoid_no_eps x t, bce_logits_scalar_eq _ x t⟩

end Real

/-! ## modules  (model definitions in `SynapModel/ModuleFwd.lean`, proofs in `Proofs/FusedModules.lean`) -/
section Modules
open Synap.Modules Synap.ModuleFwd

/-- **Sequential = composition of its modules**: the model of `Sequential(*modules)(x)` (the Python loop
    `out = module(inp); inp = out` over `submodules()`) is the left fold, in the `Option` monad with the state threaded,
    of the member forwards in registration (argument) order — for every list of module ids (repeated ids included),
    every member behaviour `call` (stateful, failing), and every world the container is built in. -/
theorem sequential_is_composition {σ τ : Type} (call : Nat → σ → τ → Option (σ × τ)) (w : World) (ks : List Nat) (st : σ) (x : τ) :
    sequentialForward call (sequential w ks).1 (sequential w ks).2 st x = ks.foldlM (fun acc k => call k acc.1 acc.2) (st, x) :=
  Proofs.FusedMod.sequential_is_composition call w ks st x

/-- on ANY module (however its `_submodules` registry came about): the fold over `submodules()` -/
theorem sequentialForward_eq_fold {σ τ : Type} (call : Nat → σ → τ → Option (σ × τ)) (w : World) (m : Nat) (st : σ) (x : τ) :
    sequentialForward call w m st x = (applyOrder w m).foldlM (fun acc k => call k acc.1 acc.2) (st, x) :=
  Proofs.FusedMod.sequentialForward_eq_fold call w m st x

/-- members that neither fail nor touch the state: plain function composition `f_{k_n} ∘ … ∘ f_{k_1}` -/
theorem sequential_is_function_composition {σ τ : Type} (f : Nat → τ → τ) (w : World) (ks : List Nat) (st : σ) (x : τ) :
    sequentialForward (fun k s t => some (s, f k t)) (sequential w ks).1 (sequential w ks).2 st x =
      some (st, ks.foldl (fun t k => f k t) x) := by
  rw [sequential_is_composition]
  induction ks generalizing x with
  | nil => rfl
  | cons k ks ih => exact ih (f k x)

/-- the empty `Sequential` is the identity (D32) and a one-member `Sequential` is that member -/
theorem sequential_nil_single {σ τ : Type} (call : Nat → σ → τ → Option (σ × τ)) (w : World) (k : Nat) (st : σ) (x : τ) :
    sequentialForward call (sequential w []).1 (sequential w []).2 st x = some (st, x) ∧
    sequentialForward call (sequential w [k]).1 (sequential w [k]).2 st x = call k st x := by
  rw [sequential_is_composition, sequential_is_composition]
  simp

/-- `Sequential(*ks₁, *ks₂) = Sequential(*ks₂) ∘ Sequential(*ks₁)` -/
theorem sequential_append {σ τ : Type} (call : Nat → σ → τ → Option (σ × τ)) (w w1 w2 : World) (ks1 ks2 : List Nat) (st : σ) (x : τ) :
    sequentialForward call (sequential w (ks1 ++ ks2)).1 (sequential w (ks1 ++ ks2)).2 st x =
      (sequentialForward call (sequential w1 ks1).1 (sequential w1 ks1).2 st x).bind (fun r =>
        sequentialForward call (sequential w2 ks2).1 (sequential w2 ks2).2 r.1 r.2) := by
  simp only [sequential_is_composition, List.foldlM_append, Option.bind_eq_bind]

/-- **Sequential(OrderedDict) = composition of the dictionary's values in insertion order** (distinct keys) -/
theorem sequentialDict_is_composition {σ τ : Type} (call : Nat → σ → τ → Option (σ × τ)) (w : World) (ks : List (String × Nat))
    (hk : (ks.map (·.1)).Nodup) (st : σ) (x : τ) :
    sequentialForward call (sequentialDict w ks).1 (sequentialDict w ks).2 st x =
      (ks.map (·.2)).foldlM (fun acc k => call k acc.1 acc.2) (st, x) :=
  Proofs.FusedMod.sequentialDict_is_composition call w ks hk st x

/-- non-vacuity: three distinct names, one module object registered twice -/
example : (([("a", 0), ("b", 1), ("c", 0)] : List (String × Nat)).map (·.1)).Nodup := by decide

/-- a concrete run: the member with id `k` adds `k + 1`; `Sequential(m2, m0, m2)` maps `10` to `10 + 3 + 1 + 3` -/
example : sequentialForward (σ := Unit) (fun k s (t : Nat) => some (s, t + k + 1)) (sequential World.empty [2, 0, 2]).1
    (sequential World.empty [2, 0, 2]).2 () 10 = some ((), 17) := by decide

/-- **Neuron = Linear with one output**: `Neuron(in, bias)` IS the object `Linear(in, 1, bias)` — weight of shape
    `(1, in)`, bias of shape `(1,)` or absent — its forward is `Linear.forward`, i.e. `F.linear(x, weight, bias)` behind
    the `x.shape[1] == in_features` assertion (no activation), and by `linear_is_addmm` that is `x @ W.T (+ b)`. -/
theorem neuron_is_linear {β : Type} [Zero β] [Add β] [Mul β] (inF : Nat) (bias : Bool) (wv bv : List β) (x : NDArray β) :
    Neuron.init inF bias wv bv = Linear.init inF 1 bias wv bv ∧
    (Neuron.init inF bias wv bv).weight.shape = [1, inF] ∧
    (Neuron.init inF bias wv bv).bias.map (·.shape) = (if bias then some [1] else none) ∧
    Neuron.forward (Neuron.init inF bias wv bv) x = Linear.forward (Linear.init inF 1 bias wv bv) x ∧
    (x.shape[1]? = some inF →
      Neuron.forward (Neuron.init inF bias wv bv) x =
        linearForward x ⟨[1, inF], wv⟩ (if bias then some ⟨[1], bv⟩ else none)) ∧
    (x.shape[1]? ≠ some inF → Neuron.forward (Neuron.init inF bias wv bv) x = none) :=
  Proofs.FusedMod.neuron_is_linear inF bias wv bv x

/-- non-vacuity, and the value: a `Neuron(3)` with weights `[1,2,3]`, bias `[10]` on a `(2,3)` batch gives the `(2,1)` column
    of the two dot products plus the bias -/
example : Neuron.forward (Neuron.init 3 true [1, 2, 3] [10]) (⟨[2, 3], [1, 0, 0, 1, 1, 1]⟩ : NDArray Int) =
    some ⟨[2, 1], [11, 16]⟩ := rfl

end Modules

/-! ## gradients

Both backward kernels of an identity are vector-Jacobian products of the same function, hence equal: the first two theorems;
`vjp_comp_adjoint` and `Proofs.Adjoint.IsAdjoint.comp` give the composition side its VJP (the chain rule the engine applies). -/
section Grad
open Proofs.Adjoint Proofs.NL

/-- **equal forwards have equal backwards (linear ops, any commutative ring)**: if `F` and `G` agree on every well-formed
    operand of shape `sa`, `B_F` is an adjoint (`IsAdjoint`: the VJP of a linear map, total, right shape) of `F` and `B_G`
    one of `G`, then `B_F g = B_G g` for every upstream gradient `g`. -/
theorem grad_eq_of_forward_eq {S : Type} [CommRing S] (sa sy : Shape) (F G BF BG : NDArray S → Option (NDArray S))
    (hF : IsAdjoint sa sy F BF) (hG : IsAdjoint sa sy G BG)
    (hFG : ∀ v : NDArray S, v.WF → v.shape = sa → F v = G v)
    (g : NDArray S) (hg : g.WF) (hs : g.shape = sy) : BF g = BG g :=
  Props.C01.vjp_unique sa sy F BF BG hF (hG.congr hFG (fun _ _ _ => rfl)) g hg hs

/-- non-vacuity: `F = G = neg` satisfies the hypotheses (`Props.C01.neg_vjp`) -/
example : IsAdjoint (R := Int) [2] [2] (fun v => some (negForward v)) (fun g => some (negBackward g)) :=
  Props.C01.neg_vjp [2]

/-- **equal forwards have equal backwards (nonlinear ops over ℝ)**: the same with `IsVJPAt` (derivative of
    `t ↦ ⟪F(a + t·v), g⟫` at 0 is `⟪v, B g⟫` for every direction `v`) at the point `a`. -/
theorem vjp_grad_eq_of_forward_eq (F G : NDArray ℝ → Option (NDArray ℝ)) (a : NDArray ℝ) (ha : a.WF) (sy : Shape)
    (BF BG : NDArray ℝ → Option (NDArray ℝ)) (hF : IsVJPAt F a sy BF) (hG : IsVJPAt G a sy BG)
    (hFG : ∀ z : NDArray ℝ, z.WF → z.shape = a.shape → F z = G z)
    (g : NDArray ℝ) (hg : g.WF) (hs : g.shape = sy) : BF g = BG g := by
  obtain ⟨_, b, hb, hbw, hbs, _⟩ := hF (zeros a.shape) g (zeros_wf _) rfl hg hs
  obtain ⟨_, b', hb', hbw', hbs', _⟩ := hG (zeros a.shape) g (zeros_wf _) rfl hg hs
  rw [hb, hb']
  refine congrArg some (ext_get b b' hbw hbw' (hbs.trans hbs'.symm) fun i hi => ?_)
  rw [hbs] at hi
  -- in the direction of the basis array at `i` both derivatives exist, of the same function: they agree, and they are
  -- the entries at `i`
  obtain ⟨_, c, hc, _, _, d1⟩ := hF _ g (ofFn_wf a.shape fun k => if k = i then 1 else 0) rfl hg hs
  obtain ⟨_, c', hc', _, _, d2⟩ := hG _ g (ofFn_wf a.shape fun k => if k = i then 1 else 0) rfl hg hs
  rw [hb] at hc; rw [hb'] at hc'
  cases hc; cases hc'
  rw [← dot_basis a.shape i hi b, ← dot_basis a.shape i hi b']
  exact d1.unique (d2.congr_of_eventuallyEq (.of_forall fun t =>
    congrArg (fun o => (o.map fun y => dot y g).getD 0) (hFG _ (line_wf a _ t ha (ofFn_wf _ _) rfl) (line_shape a _ t))))

/-- **chain rule for a linear op after a nonlinear one**: the composition side of an identity has a VJP made of the
    members' backward kernels in reverse order (for two linear ops: `Proofs.Adjoint.IsAdjoint.comp`) -/
theorem vjp_comp_adjoint {F B L BL : NDArray ℝ → Option (NDArray ℝ)} {a : NDArray ℝ} {sm sy : Shape}
    (hF : IsVJPAt F a sm B) (hL : IsAdjoint sm sy L BL) :
    IsVJPAt (fun x => (F x).bind L) a sy (fun g => (BL g).bind B) :=
  Proofs.NL.IsVJPAt.comp_adjoint hF hL

/-- **gradient of cross-entropy = gradient of NLL ∘ log_softmax**: for every accepted call and every upstream gradient the
    fused backward kernel returns exactly what the chain rule through `nll_loss` and `log_softmax` returns -/
theorem cross_entropy_grad_is_nll_log_softmax_grad (x y ls : NDArray ℝ) (labels : List Nat) (hx : x.WF)
    (h : crossEntropyForward x labels = some y) (hls : logSoftmaxForward x 1 = some ls)
    (g : NDArray ℝ) (hg : g.WF) (hgs : g.shape = y.shape) :
    crossEntropyBackward g x labels = logSoftmaxBackward (nllBackward g ls labels) ls 1 := by
  rw [crossEntropyForward_eq, hls] at h
  exact crossEntropyBackward_eq x y ls g labels hls (Option.ite_none_right_eq_some.1 h).2

example : ∃ y ls, crossEntropyForward (⟨[2, 2], [1, 2, 3, 4]⟩ : NDArray ℝ) [0, 1] = some y ∧
    logSoftmaxForward (⟨[2, 2], [1, 2, 3, 4]⟩ : NDArray ℝ) 1 = some ls := ⟨_, _, rfl, rfl⟩

/-- **gradients of linear = gradients of `x @ transpose(W)`**, both operands: w.r.t. `x` the `matmul` backward (left
    operand); w.r.t. `W` the `matmul` backward (right operand) followed by the `transpose` backward -/
theorem linear_grads_are_matmul_grads {S : Type} [CommRing S] (x w wt y : NDArray S) (hx : x.WF) (hw : w.WF)
    (h : linearForward x w none = some y) (hwt : transposeForward w 0 1 = some wt)
    (g : NDArray S) (hg : g.WF) (hgs : g.shape = y.shape) :
    (linearBackward g x w none).map (·.1) = (matmulBackward g x wt).map (·.1) ∧
    (linearBackward g x w none).map (·.2.1) = ((matmulBackward g x wt).map (·.2)).bind (fun gwt => transposeBackward gwt 0 1) :=
  by
  -- the value side: `linear` without bias is the product with the transposed weight
  have hlin : ∀ v : NDArray S, linearForward v w none = matmulForward v wt := fun v =>
    congrArg (·.bind (matmul v)) (hwt : swapaxes w 0 1 = some wt)
  have hmm : matmulForward x wt = some y := hlin x ▸ h
  exact ⟨grad_eq_of_forward_eq x.shape y.shape _ _ _ _ (linear_adj_x x w y h)
      (matmul_adj_left x wt y hmm) (fun v _ _ => hlin v) g hg hgs,
    grad_eq_of_forward_eq w.shape y.shape _ _ _ _ (linear_adj_w x w y h)
      ((transpose_adj w wt 0 1 hwt).comp (matmul_adj_right x wt y hmm)) (fun v _ _ => rfl) g hg hgs⟩

example : ∃ y wt, linearForward (⟨[1, 2], [1, 2]⟩ : NDArray Int) ⟨[3, 2], [1, 2, 3, 4, 5, 6]⟩ none = some y ∧
    transposeForward (⟨[3, 2], [1, 2, 3, 4, 5, 6]⟩ : NDArray Int) 0 1 = some wt := ⟨_, _, rfl, rfl⟩

/-- **gradient of mean = gradient of sum / count**: the fused backward kernel returns what the chain rule through "divide
    by the count" and `sum` returns -/
theorem mean_grad_is_sum_div_grad {F : Type} [Field F] (a y : NDArray F) (ax : Axes) (keep : Bool) (axes : List Nat) (ha : a.WF)
    (h : meanForward a ax keep = some y) (hax : ax.norm a.shape.length = some axes)
    (g : NDArray F) (hg : g.WF) (hgs : g.shape = y.shape) :
    meanBackward g a.shape ax keep =
      sumBackward (g.map (· / (((axes.map (fun k => a.shape.getD k 0)).foldr (· * ·) 1 : Nat) : F))) a.shape ax keep := by
  -- `unreduce` is a gather, and dividing by the count (`0 / c = 0`) commutes with reading an entry, in range or not
  simp only [meanBackward, sumBackward, hax, Proofs.Adjoint.normRed_of_norm hax, unreduce, gather, Proofs.Calc.map_ofFn]
  exact congrArg (fun f => some (ofFn a.shape f)) (funext fun i => (Proofs.Calc.get_map0 (· / _) (zero_div _) g _).symm)

example : ∃ y axes, meanForward (⟨[2, 2], [1, 2, 3, 4]⟩ : NDArray ℝ) (.one 1) false = some y ∧
    (Axes.one 1).norm (⟨[2, 2], [1, 2, 3, 4]⟩ : NDArray ℝ).shape.length = some axes := ⟨_, _, rfl, rfl⟩

end Grad

end Props.C14
