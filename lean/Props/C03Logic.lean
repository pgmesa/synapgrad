import Proofs.EngineLogicTraversal
import Proofs.EngineLogicBuffers
/-!
# C03 — the decision logic of `tensor.py`, read from the source on this run, is the logic of the engine model

`Synap.Gen.Engine.*` (file `SynapModel/Generated/EngineLogic.lean`) is regenerated from `/repo/synapgrad/tensor.py` by
`harness/engine_logic.py` every time a check runs.  The statements (with their proofs) are in `Proofs/EngineLogicTraversal.lean` and `EngineLogicBuffers.lean` (namespace `Proofs.EngineLogicTie`);
they are re-exported here because they belong to this property: the traversal visits and pushes, the sweep calls and releases, exactly under the conditions the source contains.
-/
namespace Props.C03

/-- the statements of the explicit-stack loop (conditions abstracted) are the ones `stackStep` was written from -/
theorem src_traversal_skeleton_is_modelled : type_of% @Proofs.EngineLogicTie.traversal_skeleton_is_modelled := @Proofs.EngineLogicTie.traversal_skeleton_is_modelled

/-- the statements of the sweep loop: reversed post-order, `grad_fn` call before the release -/
theorem src_sweep_skeleton_is_modelled : type_of% @Proofs.EngineLogicTie.sweep_skeleton_is_modelled := @Proofs.EngineLogicTie.sweep_skeleton_is_modelled

/-- one turn of the explicit-stack machine pushes the child exactly when the source condition holds -/
theorem src_stack_step_is_model : type_of% @Proofs.EngineLogicTie.stackStep_uses_src := @Proofs.EngineLogicTie.stackStep_uses_src

/-- the recursive traversal of the engine theorems performs the same zero-check per child -/
theorem src_visit_is_model : type_of% @Proofs.EngineLogicTie.visit_uses_src := @Proofs.EngineLogicTie.visit_uses_src

/-- one step of the sweep with the source release condition in place -/
theorem src_sweep_step_is_model : type_of% @Proofs.EngineLogicTie.sweep_uses_src := @Proofs.EngineLogicTie.sweep_uses_src

/-- `grad_fn` is called exactly when it is not None -/
theorem src_calls_grad_fn_is_model : type_of% @Proofs.EngineLogicTie.calls_grad_fn_is_model := @Proofs.EngineLogicTie.calls_grad_fn_is_model

/-- backward raises on a tensor that does not require grad, by the source condition -/
theorem src_backward_guard_is_model : type_of% @Proofs.EngineLogicTie.backward_guard_is_model := @Proofs.EngineLogicTie.backward_guard_is_model

end Props.C03
