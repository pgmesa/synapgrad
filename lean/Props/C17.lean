import Props.C17Logic
import Proofs.EngineStack
import Proofs.ApiBasic
/-!
# C17 — Backward scales to deep graphs and untracked computations keep no history (logical core)

Statements about `Synap.Engine.backward` / `Synap.Api` for graphs of *any* depth and size.
What no model can exhibit — CPython's recursion limit, reference counting, wall time — is
observed on the implementation by the check (`runtime_residue`), not proved.
-/
namespace Props.C17
open Synap.Engine Proofs.Engine

variable {G : Type}

/-- **The traversal lists exactly the nodes reachable from the root, each once, operands before
    results** — for every well-formed graph, whatever its depth. -/
theorem postorder_covers_reachable (ns : Graph G) (hw : WFG ns) (root : Nat) (hr : root < ns.length) :
    let ord := (traverse ns root).ordered
    ord.Nodup ∧ root ∈ ord ∧
    (∀ u ∈ ord, ∀ n, ns[u]? = some n → ∀ c ∈ n.children, BeforeIn ord c u) ∧
    (∀ v, v ∈ ord ↔ Reach ns root v) :=
  traverse_order ns hw root hr

variable [Add G]

/-- **Each recorded operation is visited exactly once** per backward call. -/
theorem each_fn_once (ns : Graph G) (hw : WFG ns) (root : Nat) (g : G) (retainAll : Bool)
    (ns' : Graph G) (tr : List TrEv) (h : backward ns root g retainAll = some (ns', tr)) (v : Nat) :
    (Reach ns root v ∧ (∃ n, ns[v]? = some n ∧ n.back.isSome = true) → tr.count (TrEv.call v) = 1) ∧
    (¬ (Reach ns root v ∧ (∃ n, ns[v]? = some n ∧ n.back.isSome = true)) → tr.count (TrEv.call v) = 0) :=
  Proofs.Engine.each_fn_once ns hw root g retainAll ns' tr h v

/-- **Cost linear in the size of the differentiable graph**: at most three engine events per
    reachable node. -/
theorem trace_linear (ns : Graph G) (hw : WFG ns) (root : Nat) (g : G) (retainAll : Bool)
    (ns' : Graph G) (tr : List TrEv) (h : backward ns root g retainAll = some (ns', tr)) :
    tr.length ≤ 3 * (traverse ns root).ordered.length := by
  obtain ⟨r, hr, F, S⟩ := backward_facts hw h
  obtain ⟨ev, hev, hlen, _⟩ := S.trace
  have := F.trlen
  rw [hev, List.length_append]
  rw [List.length_reverse] at hlen
  omega

/-- **backward completes on every well-formed graph** (no depth bound in the model). -/
theorem backward_completes (ns : Graph G) (hw : WFG ns) (hb : BacksTotal ns) (hq : BackImpliesReq ns)
    (root : Nat) (r : Node G) (hr : ns[root]? = some r) (hrg : r.reqGrad = true) (g : G) (retainAll : Bool) :
    ∃ res, backward ns root g retainAll = some res :=
  backward_succeeds ns hw hb hq root r hr hrg g retainAll

/-- **The code's traversal is an explicit-stack loop, not a recursion, and it is linear**: the step-by-step model of
    the `while stack:` loop of `Tensor.backward`, given `stackFuel ns = (number of operand edges) + (number of nodes) + 1`
    turns, reaches exactly the state of the recursive traversal — so no Python recursion depth is involved at any graph
    depth, and the work of the traversal phase is bounded by edges + nodes. -/
theorem loop_is_iterative_and_linear (ns : Graph G) (hw : WFG ns) (root : Nat) (hr : root < ns.length) :
    runStack (stackFuel ns) ⟨[root], [], ns, []⟩ [⟨root, childrenOf ns root⟩] = traverse ns root ∧
    stackFuel ns = (ns.map (fun n => n.children.length + 1)).sum + 1 :=
  ⟨Proofs.EngineStack.traverseStack_eq_traverse ns hw root hr, rfl⟩

section Api
open Synap Synap.Api
variable {α : Type} [Zero α]

/-- **A tensor that does not require grad keeps no history**: created under `no_grad`, or from
    operands none of which require grad, it holds no operands (`children = []`) and no `grad_fn`,
    so nothing is reachable from it and its operands can be freed. -/
theorem untracked_has_no_history (st st' : TState α) (v : NDArray α) (dt : DType) (rg : Bool)
    (children : List Nat) (back : Option (NDArray α → Option (List (Option (NDArray α))))) (k : Nat)
    (h : mkTensor st v dt rg children back = some (st', k)) (hno : (rg && st.modes.grad) = false) :
    ∃ n, st'.g[k]? = some n ∧ n.children = [] ∧ n.back = none ∧ n.reqGrad = false ∧ n.grad = none :=
  ⟨_, Proofs.Api.mkTensor_get h, by simp [Proofs.Api.mkNode, hno], by simp [Proofs.Api.mkNode, hno], hno, rfl⟩

/-- the flag rule every op wrapper uses: under `no_grad` no result requires grad -/
theorem no_grad_mode_untracked (st st' : TState α) (v : NDArray α) (dt : DType) (rg : Bool)
    (children : List Nat) (back : Option (NDArray α → Option (List (Option (NDArray α))))) (k : Nat)
    (h : mkTensor st v dt rg children back = some (st', k)) (hmode : st.modes.grad = false) :
    ∃ n, st'.g[k]? = some n ∧ n.children = [] ∧ n.back = none ∧ n.reqGrad = false :=
  let ⟨n, a, b, c, d, _⟩ := untracked_has_no_history st st' v dt rg children back k h (by simp [hmode])
  ⟨n, a, b, c, d⟩

omit [Zero α] in
/-- **`backward()` leaves the modes alone** — whether it completes or raises, on any state: a `backward()` called inside an
    active `no_grad` / `retain_grads` block does not end (or start) the block. -/
theorem backward_keeps_modes [Add α] (st : TState α) (root : Nat) (g : NDArray α) :
    (Synap.Api.backward st root g).1.modes = st.modes := by
  obtain ⟨g', h⟩ := Proofs.Api.backward_fst st root g
  rw [h]

/-- **An untracked region stays untracked across a `backward()` inside it**: with tracking off, whatever is computed right
    after a `backward()` of an earlier recorded graph (complete or rejected) still holds no operands and no `grad_fn`. -/
theorem untracked_after_backward [Add α] (st st' : TState α) (root : Nat) (g v : NDArray α) (dt : DType) (rg : Bool)
    (children : List Nat) (back : Option (NDArray α → Option (List (Option (NDArray α))))) (k : Nat)
    (hmode : st.modes.grad = false)
    (h : mkTensor (Synap.Api.backward st root g).1 v dt rg children back = some (st', k)) :
    ∃ n, st'.g[k]? = some n ∧ n.children = [] ∧ n.back = none ∧ n.reqGrad = false :=
  no_grad_mode_untracked _ st' v dt rg children back k h (by rw [backward_keeps_modes]; exact hmode)

end Api
end Props.C17
