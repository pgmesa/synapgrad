import Proofs.FormulaTie
/-!
# C14 — the scalar formulas behind the fused losses, read from the source on this run, are the ones the identities are proved for

The BCE-with-logits vs BCE∘sigmoid identities of C14 (exact gap, its bound) are stated for `bceLogitsScalar`, `bceScalar` and the sigmoid
formula, the VJP theorems of C02 for the factors `bceLogitsFactor` / `bceFactor`; these statements say the kernels of `cpu_ops.py`, as read by
`harness/formulas.py` on this run, compute exactly those — in particular the backward of BCE-with-logits is the one whose kink cancels at a
logit of exactly 0.
-/
namespace Props.C14
open Synap Synap.Kernels Proofs.FormulaTie Proofs.NL

theorem src_bce_logits_scalars (g x y : ℝ) :
    Gen.bce_with_logits_loss_forward x y = bceLogitsScalar x y ∧ Gen.bce_with_logits_loss_backward g x y = g * bceLogitsFactor x y :=
  ⟨gen_bce_logits_forward x y, gen_bce_logits_backward g x y⟩
theorem src_bce_scalars (g p t : ℝ) : Gen.bce_loss_forward p t = bceScalar p t ∧ Gen.bce_loss_backward g p t = bceFactor p t * g :=
  ⟨gen_bce_forward p t, gen_bce_backward g p t⟩
theorem src_sigmoid_scalars (g x s : ℝ) : Gen.sigmoid_forward x = 1 / (1 + Real.exp (-x)) ∧ Gen.sigmoid_backward g s = g * s * (1 - s) :=
  ⟨rfl, rfl⟩
/-- at a logit of exactly 0 the source's factor is `(1 − y) − 1/(2 + ε)`, within `ε` of `sigmoid(0) − y`: the slope `dtn`
    chosen at the kink of `tn = relu(−x)` enters twice (`+ dtn` and inside `div1`) and cancels -/
theorem src_bce_logits_backward_at_zero (y : ℝ) :
    |Gen.bce_with_logits_loss_backward 1 0 y - ((1 - y) - 1 / (1 + Real.exp 0))| ≤ (epsilon : ℝ) := by
  have h := (src_bce_logits 0 y).2 1
  rwa [one_mul, abs_one, one_mul] at h

end Props.C14
