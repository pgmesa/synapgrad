import Proofs.ConvToolsLemmas
/-!
# C16 — im2col / col2im variants agree and col2im is the exact adjoint of im2col

Statements about `Synap.ConvTools` for every geometry (N, C, H, W, kernel, stride, padding,
dilation per axis) that has at least one window, for any data; the variants agree for any pad
value, the adjoint and coverage statements are for zero padding.
-/
namespace Props.C16
open Synap Synap.NDArray Synap.ConvTools Proofs.Core Proofs.ConvTools

variable {R : Type} [CommRing R]

/-- **The three im2col implementations return the same `(N, C·kH·kW, L)` tensor**: the explicit
    index arrays (`repeat`/`tile` + fancy indexing), the double loop with strided slices and `ravel`,
    and the strided window view + `reshape`/`moveaxis` all equal the specification
    `cols[n, (c·kH+a)·kW+b, i·lW+j] = xpad[n, c, i·sH+a·dH, j·sW+b·dW]`. -/
theorem im2col_variants_agree (g : Geom) (x : NDArray R) (pad : R) (hx : x.WF) (hs : x.shape = [g.n, g.c, g.h, g.w])
    (hk : 0 < g.k.1 ∧ 0 < g.k.2) (ho : g.out.isSome) :
    im2colIdx g x pad = im2colSpec g x pad ∧ im2colLoop g x pad = im2colSpec g x pad ∧
    im2colView g x pad = im2colSpec g x pad :=
  ⟨im2colIdx_eq_spec g x pad hk, im2colLoop_eq_spec g x pad, im2colView_eq_spec g x pad hk⟩

/-- **The three col2im implementations return the same image** (`np.add.at` over the index arrays,
    the loop of slice-additions, `place_windows` on the reshaped view). -/
theorem col2im_variants_agree (g : Geom) (cols : NDArray R) (hc : cols.WF) (lh lw : Nat) (ho : g.out = some (lh, lw))
    (hs : cols.shape = [g.n, g.rows, lh * lw]) (hk : 0 < g.k.1 ∧ 0 < g.k.2) :
    col2imIdx g cols = col2imSpec g cols ∧ col2imLoop g cols = col2imSpec g cols ∧
    col2imView g cols = col2imSpec g cols :=
  ⟨col2imIdx_eq_spec g cols hk, col2imLoop_eq_spec g cols lh lw ho, col2imView_eq_spec g cols lh lw ho hs⟩

/-- **col2im is the transpose of im2col**: `⟪im2col x, y⟫ = ⟪x, col2im y⟫` for all `x`, `y`
    (zero padding; a non-zero pad value only adds a constant that does not depend on `x`). -/
theorem col2im_adjoint_of_im2col (g : Geom) (x y : NDArray R) (hx : x.WF) (hs : x.shape = [g.n, g.c, g.h, g.w])
    (lh lw : Nat) (ho : g.out = some (lh, lw)) (hy : y.WF) (hys : y.shape = [g.n, g.rows, lh * lw])
    (hk : 0 < g.k.1 ∧ 0 < g.k.2) :
    ∃ u v, im2colSpec g x 0 = some u ∧ col2imSpec g y = some v ∧ dot u y = dot x v :=
  col2im_adjoint g x y hs lh lw ho

/-- number of windows covering pixel `(hh, ww)` -/
def coverage (g : Geom) (lh lw hh ww : Nat) : Nat :=
  ((List.range lh).flatMap (fun i => (List.range lw).flatMap (fun j =>
    (List.range g.k.1).flatMap (fun a => (List.range g.k.2).map (fun b =>
      if i * g.s.1 + a * g.d.1 = hh + g.p.1 ∧ j * g.s.2 + b * g.d.2 = ww + g.p.2 then 1 else 0))))).sum

theorem coverage_mul (g : Geom) (lh lw hh ww : Nat) (m : R) :
    (coverage g lh lw hh ww : R) * m = placeVal g lh lw (fun _ _ _ _ => m) hh ww := by
  -- a pass does not come back to a node whose subterm it has changed: list sums to `Finset` sums, then the cast
  -- inside them, then the factor (`placeVal` is unfolded by `rfl` only; one-pass `simp`: see `placeWindows_eq`)
  simp +singlePass only [↓coverage, ↓sum_flatMap_range, ↓sum_map_range]
  simp +singlePass only [↓Nat.cast_sum, ↓Nat.cast_ite, ↓Nat.cast_one, ↓Nat.cast_zero]
  simp +singlePass only [↓Finset.sum_mul, ↓ite_mul, ↓one_mul, ↓zero_mul]
  rfl

/-- **Folding an unfolded image multiplies each pixel by the number of windows covering it.** -/
theorem fold_unfold_coverage (g : Geom) (x : NDArray R) (hx : x.WF) (hs : x.shape = [g.n, g.c, g.h, g.w])
    (lh lw : Nat) (ho : g.out = some (lh, lw)) (hk : 0 < g.k.1 ∧ 0 < g.k.2) :
    ∃ u v, im2colSpec g x 0 = some u ∧ col2imSpec g u = some v ∧
      ∀ n c hh ww, n < g.n → c < g.c → hh < g.h → ww < g.w →
        v.get [n, c, hh, ww] = (coverage g lh lw hh ww : R) * x.get [n, c, hh, ww] := by
  obtain ⟨u, hu⟩ : ∃ u, im2colSpec g x 0 = some u := ⟨_, im2colSpec_eq g x 0 lh lw ho⟩
  refine ⟨u, _, hu, col2imSpec_eq g u lh lw ho, ?_⟩
  intro n c hh ww hn hc hh' hw'
  rw [get_ofFn _ _ _ (show validIdx [g.n, g.c, g.h, g.w] [n, c, hh, ww] from ⟨hn, hc, hh', hw', trivial⟩),
    coverage_mul]
  refine Finset.sum_congr rfl (fun i hi => Finset.sum_congr rfl (fun j hj => Finset.sum_congr rfl
    (fun a ha => Finset.sum_congr rfl (fun b hb => ite_congr rfl (fun hcond => ?_) (fun _ => rfl)))))
  dsimp only [getI_cons_zero, getI_cons_succ]
  rw [im2colSpec_get_window g x u 0 lh lw ho hu hn hc (Finset.mem_range.1 hi) (Finset.mem_range.1 hj)
    (Finset.mem_range.1 ha) (Finset.mem_range.1 hb), hcond.1, hcond.2, padGet_inside g x 0 n c hh ww hh' hw']

/-- **The sliding-window extractor and its placement routine are adjoint** as well. -/
theorem extract_place_adjoint (g : Geom) (x w : NDArray R) (hx : x.WF) (hs : x.shape = [g.n, g.c, g.h, g.w])
    (lh lw : Nat) (ho : g.out = some (lh, lw)) (hw : w.WF) (hws : w.shape = [lh, lw, g.n, g.c, g.k.1, g.k.2]) :
    ∃ u v, extractWindows g x 0 = some u ∧ placeWindows g w = some v ∧ dot u w = dot x v := by
  refine ⟨_, _, by rw [extractWindows, ho]; rfl, placeWindows_eq g w lh lw ho, ?_⟩
  rw [dot_ofFn, dot_ofFn_right _ _ _ hs]
  simp +singlePass only [↓sum_allIdx_cons, ↓sum_allIdx_nil]
  exact (sum_swap22 _ _ _ _ _).trans (Finset.sum_congr rfl fun n _ => Finset.sum_congr rfl fun c _ =>
    window_adjoint g x n c lh lw fun i j a b => w.get [i, j, n, c, a, b])

/-! ### Non-vacuity: a 1×1×3×3 image, 2×2 kernel, stride 1 -/
example : ((im2colSpec (α := Int) ⟨1, 1, 3, 3, (2, 2), (1, 1), (0, 0), (1, 1)⟩ ⟨[1, 1, 3, 3], [1, 2, 3, 4, 5, 6, 7, 8, 9]⟩ 0).map (·.data))
    = some [1, 2, 4, 5, 2, 3, 5, 6, 4, 5, 7, 8, 5, 6, 8, 9] := by decide +kernel

end Props.C16
