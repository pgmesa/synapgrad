import Props.C05Formulas
import Props.C05Calls
import SynapModel.Ctors
import SynapModel.Ops
import Proofs.SpecOps
import Proofs.SpecReduce
/-!
# C05 — Forward results of tensor ops match the NumPy / PyTorch definition they mirror

Each executable definition of the model is proved equal to its one-line mathematical reading
(value at every index + result shape), for every shape and every accepted argument value;
wrapper logic (flatten's dim handling, unfold's window count, constructors' shape spellings,
the iteration protocol, operator forms with Python scalars) is stated outright.
-/
namespace Props.C05
open Synap Synap.Np Synap.Kernels Synap.Api Synap.Ops Proofs.Core
open Proofs.Adjoint Proofs.Spec

variable {R : Type} [CommRing R]

/-- **flatten(start, end)**: accepted exactly when both dims are in `[-ndim, ndim)` (with `ndim`
    read as 1 for a 0-d tensor) and `start ≤ end` after normalisation; the result merges the dims
    `start..end` into one and keeps the others — never another shape. -/
theorem flatten_spec (s : Shape) (hs : 0 < s.length) (st en : Int) :
    let nd : Int := s.length
    let ok := (-nd ≤ st ∧ st < nd ∧ -nd ≤ en ∧ en < nd)
    let a := if st < 0 then st + nd else st
    let b := if en < 0 then en + nd else en
    (flattenTarget s st en).isSome = decide (ok ∧ a ≤ b) ∧
    (ok → a ≤ b → ∀ (x y : NDArray R), x.WF → x.shape = s → flattenForward x st en = some y →
      y.shape = s.take a.toNat ++ [((s.drop a.toNat).take (b.toNat - a.toNat + 1)).foldr (· * ·) 1] ++ s.drop (b.toNat + 1) ∧
      y.data = x.data) := by
  intro nd ok a b
  have hT : flattenTarget s st en = if ok ∧ a ≤ b then _ else none := flattenTarget_eq s hs st en
  constructor
  · rw [hT, Bool.eq_iff_iff, Option.isSome_ite, decide_eq_true_iff]
  · intro hok hab x y hx hxs h
    rw [if_pos ⟨hok, hab⟩] at hT
    unfold flattenForward at h
    rw [hxs, hT] at h
    simp only [Option.bind_eq_bind, Option.bind_some] at h
    unfold reshape at h
    rw [hxs] at h
    obtain ⟨s', h0, rfl⟩ := Option.map_eq_some_iff.1 h
    refine ⟨?_, reshapeTo_data x hx s' (by rw [resolveShape_size _ _ _ h0, hxs])⟩
    show s' = _
    obtain ⟨h1, h2, h3, h4⟩ := hok
    have ha0 : 0 ≤ a := by omega
    have hB : b.toNat < s.length := Proofs.SpecOps.pyAxis_lt s.length en ⟨h3, h4⟩
    refine resolveShape_merge s a.toNat b.toNat (Int.toNat_le_toNat hab) hB s' ?_
    rw [← h0]
    by_cases hlt : a < b
    · rw [if_pos hlt, if_pos ((Int.toNat_lt_toNat (Int.lt_of_le_of_lt ha0 hlt)).2 hlt)]
    · rw [if_neg hlt, if_neg (fun h => hlt (Int.lt_of_toNat_lt h))]

/-- **Tensor.unfold(dimension, size, step)**: `out[…, w, …, k] = x[…, w·step + k, …]`, with
    `(n − size)/step + 1` windows, the window contents in a new last axis; rejected when
    `size > n`, or size / step are not positive, or the dimension is out of range. -/
theorem unfold_dim_spec (x y : NDArray R) (hx : x.WF) (dimension size step : Int) (h : unfoldDimForward x dimension size step = some y) :
    ∃ d, normAxis x.shape.length dimension = some d ∧ 0 < size ∧ 0 < step ∧ size.toNat ≤ x.shape.getD d 0 ∧
      y.shape = (x.shape.set d ((x.shape.getD d 0 - size.toNat) / step.toNat + 1)) ++ [size.toNat] ∧
      ∀ j, validIdx y.shape j →
        y.get j = x.get ((j.dropLast).set d (j.getD d 0 * step.toNat + j.getLastD 0)) := by
  obtain ⟨t, ht, h⟩ := Option.bind_eq_some_iff.1 h
  rw [Proofs.SpecOps.unfoldDimCheck_eq] at ht
  obtain ⟨hc, ht⟩ := Option.ite_none_right_eq_some.1 ht
  obtain rfl := Option.some.inj ht
  obtain rfl := Option.some.inj h
  refine ⟨_, (Proofs.SpecOps.normAxis_eq _ _).trans (if_pos hc.1), hc.2.1, hc.2.2.1, hc.2.2.2, ?_, ?_⟩
  · show _ ++ _ = _
    rw [← zipIdx_map_ite_eq_set x.shape _ (fun _ => _)]
  · intro j hj
    change validIdx (_ ++ [size.toNat]) j at hj
    rw [get_gather _ _ _ _ hj]
    have hlen := validIdx_length _ _ hj
    simp only [List.length_append, List.length_map, List.length_zipIdx, List.length_singleton] at hlen
    have hd := Proofs.SpecOps.pyAxis_lt _ _ hc.1
    unfold unfoldDimMap
    have := zipIdx_map_ite_eq_set j.dropLast (Proofs.SpecOps.pyAxis x.shape.length dimension)
      (fun v => v * step.toNat + j.getLastD 0)
    rw [this]
    have hg : (j.dropLast).getD (Proofs.SpecOps.pyAxis x.shape.length dimension) 0 = j.getD (Proofs.SpecOps.pyAxis x.shape.length dimension) 0 := by
      rw [List.getD_eq_getElem?_getD, List.getD_eq_getElem?_getD, List.getElem?_dropLast,
        if_pos (show Proofs.SpecOps.pyAxis x.shape.length dimension < j.length - 1 by rw [hlen]; exact hd)]
    rw [hg]

/-- **sum over the named dims**: the value at an output index is the sum of the inputs that agree
    with it off the reduced axes; the shape drops (or keeps as 1) exactly the reduced axes.  The dims
    are normalised by `Axes.normRed` (`axes_normRed_iff`): `None`, an int in `[-ndim, ndim)`, a tuple of
    distinct in-range ints — and, on a 0-d operand, the ints `0` and `-1`, which name no axis
    (`axes = []`: the result is the operand, `sum_zero_dim`). -/
theorem sum_spec (x y : NDArray R) (hx : x.WF) (ax : Axes) (keep : Bool) (h : sumForward x ax keep = some y) :
    ∃ axes, ax.normRed x.shape.length = some axes ∧ y.shape = reduceShape x.shape axes keep ∧
      ∀ o, validIdx y.shape o →
        y.get o = (((allIdx x.shape).filter (fun i => reduceIdx axes keep i == o)).map x.get).sum := by
  rw [sumForward_eq] at h
  obtain ⟨axes, h0, rfl⟩ := Option.map_eq_some_iff.1 h
  exact ⟨axes, h0, rfl, fun o ho => get_scatterAdd _ _ _ _ _ ho⟩

/-- `sum` is accepted exactly when its dims normalise (`axes_normRed_iff` spells the condition out) -/
theorem sum_accepts_iff (x : NDArray R) (ax : Axes) (keep : Bool) :
    (sumForward x ax keep).isSome ↔ (ax.normRed x.shape.length).isSome := by
  rw [sumForward_eq, Option.isSome_map]

/-- **matmul**: `out[…, i, j] = Σ_t a[…, i, t]·b[…, t, j]` with NumPy batch broadcasting; operands of
    rank < 2 are rejected. -/
theorem matmul_spec (a b y : NDArray R) (h : matmulForward a b = some y) :
    2 ≤ a.shape.length ∧ 2 ≤ b.shape.length ∧
    ∃ batch, broadcastShapes (a.shape.take (a.shape.length - 2)) (b.shape.take (b.shape.length - 2)) = some batch ∧
      y.shape = batch ++ [a.shape.getD (a.shape.length - 2) 0, b.shape.getD (b.shape.length - 1) 0] ∧
      ∀ j, validIdx y.shape j →
        y.get j = ((List.range (a.shape.getD (a.shape.length - 1) 0)).map (fun t =>
          a.get (bcastIdx (a.shape.take (a.shape.length - 2)) (j.take batch.length) ++ [j.getD batch.length 0, t]) *
          b.get (bcastIdx (b.shape.take (b.shape.length - 2)) (j.take batch.length) ++ [t, j.getD (batch.length + 1) 0]))).sum := by
  unfold matmulForward at h
  rw [matmul_eq] at h
  obtain ⟨hc, h⟩ := Option.ite_none_right_eq_some.1 h
  obtain ⟨batch, hb, rfl⟩ := Option.map_eq_some_iff.1 h
  exact ⟨hc.1, hc.2.1, batch, hb, rfl, fun j hj => get_ofFn _ _ _ hj⟩

/-- **Broadcasting arithmetic**: `(a ⊕ b)[j] = a[π_a j] + b[π_b j]` on the broadcast shape. -/
theorem add_spec (a b y : NDArray R) (h : addForward a b = some y) :
    broadcastShapes a.shape b.shape = some y.shape ∧
    ∀ j, validIdx y.shape j → y.get j = a.get (bcastIdx a.shape j) + b.get (bcastIdx b.shape j) := by
  unfold addForward at h
  rw [bcast2_eq] at h
  obtain ⟨s, hs, rfl⟩ := Option.map_eq_some_iff.1 h
  exact ⟨hs, fun j hj => get_ofFn _ _ _ hj⟩

/-- **The three spellings of a shape give the same tensor**: `zeros(2,3) = zeros((2,3)) = zeros([2,3])`. -/
theorem ctor_shape_forms (dims : List Nat) :
    (ShapeArgs.varargs dims).norm = dims ∧ (ShapeArgs.tuple dims).norm = dims ∧ (ShapeArgs.list dims).norm = dims :=
  ⟨rfl, rfl, rfl⟩

theorem arangeVals_pos (start stop step : Int) (h : 0 < step) :
    arangeVals start stop step =
      some ((List.range ((stop - start + step - 1) / step).toNat).map fun (k : Nat) => start + step * (k : Int)) := by
  unfold arangeVals
  rw [if_neg (Int.ne_of_gt h)]
  simp only [h, if_true]

theorem arangeVals_neg (start stop step : Int) (h : step < 0) :
    arangeVals start stop step =
      some ((List.range ((start - stop + (-step) - 1) / (-step)).toNat).map fun (k : Nat) => start + step * (k : Int)) := by
  unfold arangeVals
  rw [if_neg (Int.ne_of_lt h)]
  simp only [Int.lt_asymm h, if_false]

/-- `np.arange(start, stop, step)` on integers: the `k`-th value is `start + k·step`, and there are
    exactly as many values as lie strictly before `stop`. -/
theorem arange_spec (start stop step : Int) (hstep : 0 < step) (vs : List Int) (h : arangeVals start stop step = some vs) :
    (∀ k, k < vs.length → vs[k]? = some (start + step * k)) ∧
    (∀ v ∈ vs, start ≤ v ∧ v < stop) ∧ (start + step * vs.length ≥ stop) := by
  rw [arangeVals_pos _ _ _ hstep] at h
  obtain rfl := Option.some.inj h
  have hc := Proofs.SpecOps.rangeCount_lt_iff start stop step hstep
  simp only [List.length_map, List.length_range]
  refine ⟨?_, ?_, ?_⟩
  · intro k hk
    rw [List.getElem?_map, List.getElem?_range hk]
    rfl
  · intro v hv
    simp only [List.mem_map, List.mem_range] at hv
    obtain ⟨k, hk, rfl⟩ := hv
    have h2 : 0 ≤ step * (k : Int) := Int.mul_nonneg (Int.le_of_lt hstep) (Int.natCast_nonneg k)
    exact ⟨by omega, (hc k).1 hk⟩
  · have := (hc ((stop - start + step - 1) / step).toNat).not.1 (Nat.lt_irrefl _)
    omega

/-! ### constructor calls: argument positions and falsy-but-meaningful values (`SynapModel/Ctors.lean`) -/
section CtorCalls
open Synap.Ctors

/-- **The forms of `arange` are told apart by the NUMBER of arguments**, never by their values:
    `arange(e)`, `arange(s, e)`, `arange(s, e, d)`. -/
theorem arange_forms (s e d : Int) :
    arangeArgs [e] = some (0, e, 1) ∧ arangeArgs [s, e] = some (s, e, 1) ∧ arangeArgs [s, e, d] = some (s, e, d) ∧
    arangeArgs ([] : List Int) = none :=
  ⟨rfl, rfl, rfl, rfl⟩

/-- an explicit end of `0` is an END: `arange(s, 0)` is the interval `[s, 0)`, not `arange(0, s)` -/
theorem arange_explicit_end_zero (s d : Int) :
    arangeArgs [s, 0] = some (s, 0, 1) ∧ arangeArgs [s, 0, d] = some (s, 0, d) := ⟨rfl, rfl⟩

/-- `arange(-n, 0)` counts `-n, …, -1` (it is not the empty tensor) -/
theorem arange_negative_interval (n : Nat) :
    (arangeArgs [-(n : Int), 0]).bind (fun (s, e, d) => arangeVals s e d) =
      some ((List.range n).map (fun (k : Nat) => -(n : Int) + 1 * (k : Int))) := by
  show arangeVals (-(n : Int)) 0 1 = _
  rw [arangeVals_pos _ _ 1 Int.one_pos, show ((0 - -(n : Int) + 1 - 1) / 1).toNat = n by simp]

/-- a count-down to `0`: `arange(n, 0, -1)` has the `n` values `n, n-1, …, 1` -/
theorem arange_count_down (n : Nat) :
    (arangeArgs [(n : Int), 0, -1]).bind (fun (s, e, d) => arangeVals s e d) =
      some ((List.range n).map (fun (k : Nat) => (n : Int) + -1 * (k : Int))) := by
  show arangeVals (n : Int) 0 (-1) = _
  rw [arangeVals_neg _ _ (-1) (by decide), show (- -1 : Int) = 1 from rfl,
    show (((n : Int) - 0 + 1 - 1) / 1).toNat = n by simp]

/-- an optional argument that was GIVEN is used as given whatever its truth value; omitted and `None` select the default -/
theorem opt_given_is_kept {β : Type} (v dflt : β) :
    (Opt.given v).get dflt = v ∧ (Opt.omitted : Opt β).get dflt = dflt ∧ (Opt.none : Opt β).get dflt = dflt := ⟨rfl, rfl, rfl⟩

/-- `zeros()` / `zeros(())` / `zeros([])` are 0-d; `zeros(0)` has ONE axis of extent 0 -/
theorem ctor_empty_shape_vs_zero_extent :
    (ShapeArgs.varargs []).norm = [] ∧ (ShapeArgs.tuple []).norm = [] ∧ (ShapeArgs.list []).norm = [] ∧
    (ShapeArgs.varargs [0]).norm = [0] ∧ Shape.size ([] : Shape) = 1 ∧ Shape.size [0] = 0 := by
  refine ⟨rfl, rfl, rfl, rfl, ?_, ?_⟩ <;> simp [Shape.size]

end CtorCalls

/-- iterator state: (tensor length, next position) per live iterator.  Mirrors `Tensor.__iter__` (`tensor.py`), which
    returns a generator `(self[i] for i in range(len(self)))` per loop, so every loop carries its own position; this
    small model is local to this file (`SynapModel/` has no iterator). -/
abbrev Iters := List (Nat × Nat)

/-- one `next()` on iterator `k`: yields the row index or `none` (StopIteration) -/
def iterNext (its : Iters) (k : Nat) : Iters × Option Nat :=
  match its[k]? with
  | some (n, pos) => if pos < n then (its.set k (n, pos + 1), some pos) else (its, none)
  | none => (its, none)

/-- rows yielded by iterator `k` along a schedule of `next` calls on several iterators -/
def rowsOf (k : Nat) : Iters → List Nat → List Nat
  | _, [] => []
  | its, j :: rest =>
    let (its', r) := iterNext its j
    (if j = k then (match r with | some p => [p] | none => []) else []) ++ rowsOf k its' rest

theorem rowsOf_cons (k : Nat) (its : Iters) (j : Nat) (rest : List Nat) :
    rowsOf k its (j :: rest) =
      (if j = k then (match (iterNext its j).2 with | some p => [p] | none => []) else []) ++
        rowsOf k (iterNext its j).1 rest := rfl

theorem iterNext_other (its : Iters) (j k : Nat) (h : j ≠ k) : (iterNext its j).1[k]? = its[k]? := by
  unfold iterNext
  cases hj : its[j]? with
  | none => rfl
  | some q =>
    simp only
    split_ifs
    · exact List.getElem?_set_ne h
    · rfl

theorem iterNext_self (its : Iters) (k n p : Nat) (h : its[k]? = some (n, p)) :
    iterNext its k = if p < n then (its.set k (n, p + 1), some p) else (its, none) := by
  unfold iterNext; rw [h]

theorem rowsOf_eq (k n : Nat) (sched : List Nat) : ∀ (its : Iters) (p : Nat), its[k]? = some (n, p) → p ≤ n →
    rowsOf k its sched = List.range' p (min (n - p) (sched.count k)) := by
  induction sched with
  | nil => intro its p _ _; rw [List.count_nil, Nat.min_zero]; rfl
  | cons j rest ih =>
    intro its p h hp
    rw [rowsOf_cons]
    by_cases hjk : j = k
    · subst hjk
      rw [if_pos rfl, List.count_cons_self, iterNext_self its j n p h]
      by_cases hlt : p < n
      · obtain ⟨hlen, -⟩ := List.getElem?_eq_some_iff.1 h
        rw [if_pos hlt, ih (its.set j (n, p + 1)) (p + 1) (List.getElem?_set_self hlen) hlt,
          show n - p = n - (p + 1) + 1 from (Nat.sub_add_cancel (Nat.sub_pos_of_lt hlt)).symm, Nat.add_min_add_right,
          List.range'_succ]
        rfl
      · rw [if_neg hlt, ih its p h hp, Nat.sub_eq_zero_of_le (Nat.le_of_not_lt hlt), Nat.zero_min, Nat.zero_min]
        rfl
    · rw [if_neg hjk, List.count_cons_of_ne hjk]
      exact ih _ p (by rw [iterNext_other its j k hjk, h]) hp

/-- **Every loop over a tensor sees rows `0, 1, 2, …` in order, whatever other loops over the same
    tensor do in between** (several simultaneous or nested iterations): the rows yielded to
    iterator `k` along any interleaved schedule are an initial segment `0..m-1` of the rows. -/
theorem iteration_protocol (n nIt : Nat) (k : Nat) (hk : k < nIt) (sched : List Nat) :
    ∃ m, m ≤ n ∧ rowsOf k (List.replicate nIt (n, 0)) sched = List.range m ∧
      m = min n (sched.count k) := by
  refine ⟨min n (sched.count k), Nat.min_le_left _ _, ?_, rfl⟩
  rw [rowsOf_eq k n sched _ 0 (by simp [hk]) (Nat.zero_le _), Nat.sub_zero, List.range_eq_range']

variable {α : Type} [Zero α] [One α] [Add α] [Sub α] [Mul α] [Div α] [Neg α] [NatCast α]
  [OfScientific α] [LT α] [DecidableLT α] [LE α] [DecidableLE α] [Transc α]

/-- **`a - b` is `a + (b * -1)`, `a / b` is `a * b ** -1`, `s - a` is `(a * -1) + s`, …**: every operator
    form is the stated composition of `add`, `mul`, `pow`, the scalar entering as a 0-d tensor of the
    dtype of the tensor it meets. -/
theorem operator_forms (st : TState α) (a : Nat) (s : α) :
    applySOp st .addS a (.inr s) = (scalarOperand st s a).bind (fun (st1, S) => one1 (apply st1 .add [a, S])) ∧
    applySOp st .subS a (.inr s) = (scalarOperand st (-s) a).bind (fun (st1, S) => one1 (apply st1 .add [a, S])) ∧
    applySOp st .divS a (.inr s) = (scalarOperand st (Transc.pow s (-1)) a).bind (fun (st1, S) => one1 (apply st1 .mul [a, S])) ∧
    applySOp st .neg a (.inr s) = (scalarOperand st (-1) a).bind (fun (st1, S) => one1 (apply st1 .mul [a, S])) :=
  ⟨rfl, rfl, rfl, rfl⟩

/-! ### Every other tensor op: acceptance condition, output shape, entry formula

The statements (with their proofs and a concrete `example` each) are in `Proofs/SpecOps.lean` (data movement, indexing) and
`Proofs/SpecReduce.lean` (arithmetic, reductions), which hold nothing but these specification theorems and their helper lemmas; they are re-exported here so that the audit of this
namespace covers them.  Reading, for all ranks / sizes / arguments, over any commutative ring (ordered field for max / min / mean):
* `transpose_spec`   accepted ⇔ both dims in [-n, n); shape = sizes swapped; `y[j] = x[j with positions a, b swapped]`; `transpose_same`: same dim twice = identity
* `movedim_spec`     accepted ⇔ both dims in range; shape = source axis removed and re-inserted at destination; entry through that permutation
* `reshape_spec`     accepted ⇔ sizes agree (one −1 resolved by division); row-major data unchanged
* `squeeze_all/one/many_spec`, `unsqueeze_spec`  which axes disappear / appear; data unchanged
* `concat_spec`      accepted ⇔ non-empty, dim in range, equal ranks and equal shapes off the axis; shape; `y[j]` read from the operand whose running-offset block contains `j[a]`
* `stack_spec`       accepted ⇔ non-empty, dim in [-(n+1), n+1), equal shapes; `y[insert k at a into q] = xs[k][q]`
* `unbind_spec`      one output per index along the axis, `ys[k][q] = x[insert k at a into q]`
* `index_spec`       the whole supported index language (ints incl. negative, slices with any non-zero step, one `...`, `None`, one integer list): acceptance, shape, entry position per axis; `slice_positions_pos/neg`: Python's slice arithmetic selects exactly start, start+step, … inside [start, stop)
* `mul_spec`, `neg_spec`, `mean_spec` (sum of the fibre / number of its elements, `mean_count`), `max_spec`, `min_spec` (attained on the fibre and dominating it; an int dim must satisfy `RedDimOk`: in range, or 0 / −1 on a 0-d operand) -/
alias transpose_spec := Proofs.SpecOps.transpose_spec
alias transpose_same := Proofs.SpecOps.transpose_same
alias movedim_spec := Proofs.SpecOps.movedim_spec
alias movedim_entry := Proofs.SpecOps.movedim_entry
alias reshape_spec := Proofs.SpecOps.reshape_spec
alias squeeze_all_spec := Proofs.SpecOps.squeeze_all_spec
alias squeeze_one_spec := Proofs.SpecOps.squeeze_one_spec
alias squeeze_many_spec := Proofs.SpecOps.squeeze_many_spec
alias unsqueeze_spec := Proofs.SpecOps.unsqueeze_spec
alias concat_spec := Proofs.SpecOps.concat_spec
alias stack_spec := Proofs.SpecOps.stack_spec
alias unbind_spec := Proofs.SpecOps.unbind_spec
alias index_spec := Proofs.SpecOps.index_spec
alias slice_positions_pos := Proofs.SpecOps.slice_positions_pos
alias slice_positions_neg := Proofs.SpecOps.slice_positions_neg
alias mul_spec := Proofs.SpecOps.mul_spec
alias neg_spec := Proofs.SpecOps.neg_spec
alias mean_spec := Proofs.SpecOps.mean_spec
alias mean_count := Proofs.SpecOps.mean_count
alias max_spec := Proofs.SpecOps.max_spec
alias min_spec := Proofs.SpecOps.min_spec
/-! the dims of sum / max / min, and the 0-d operand with `dim = 0 / -1` (accepted, nothing reduced; `mean` rejects) -/
alias axes_norm_iff := Proofs.SpecOps.axes_norm_iff
alias axes_normRed_iff := Proofs.SpecOps.axes_normRed_iff
alias sum_zero_dim_accepts := Proofs.SpecOps.sum_zero_dim_accepts
alias sum_zero_dim := Proofs.Adjoint.sum_zero_dim
alias max_zero_dim_accepts := Proofs.SpecOps.max_zero_dim_accepts
alias max_zero_dim := Proofs.SpecOps.max_zero_dim
alias min_zero_dim := Proofs.SpecOps.min_zero_dim
alias mean_zero_dim_rejects := Proofs.SpecOps.mean_zero_dim_rejects

end Props.C05
