import Props.C07Logic
import Proofs.EngineStruct
import Proofs.ApiBasic
/-!
# C07 — requires_grad propagation and grad-mode contexts behave like a stack

Statements about `Synap.Engine` (contexts, release rule) and `Synap.Api` (tensor creation rules).
-/
namespace Props.C07
open Synap Synap.Engine Synap.Api Proofs.Engine

/-- **A context restores the mode in force when it was entered** — on normal exit and on exit by
    exception (both run `ctxExit`), whatever the object's `prev` field held before (constructed
    earlier, re-used) and whatever happened to the other flag meanwhile. -/
theorem ctx_restores (m : Modes) (c : Ctx) (m' : Modes) :
    let (m1, c1) := ctxEnter m c
    (c.kind = .noGrad → (ctxExit m' c1).grad = m.grad ∧ (ctxExit m' c1).retain = m'.retain ∧ m1.grad = false ∧ m1.retain = m.retain) ∧
    (c.kind = .retainGrads → (ctxExit m' c1).retain = m.retain ∧ (ctxExit m' c1).grad = m'.grad ∧ m1.retain = true ∧ m1.grad = m.grad) :=
  Proofs.Engine.ctx_restores m c m'

/-- **Stack discipline at any nesting depth**: every well-nested arrangement of `no_grad` /
    `retain_grads` blocks leaves both global modes exactly as it found them. -/
theorem modes_stack (stale : Bool) (b : Block) (m : Modes) : runBlock stale b m = m :=
  Proofs.Engine.modes_stack stale b m

/-- **Result flag rule**: a result requires grad exactly when gradient mode is enabled and at
    least one operand requires grad. -/
theorem result_requires_grad_rule (m : Modes) (ops : List Bool) :
    resultReqGrad m ops = true ↔ (m.grad = true ∧ ∃ b ∈ ops, b = true) := by
  simp [resultReqGrad, and_comm]

set_option linter.unusedSectionVars false
variable {α : Type} [Zero α]

/-- `Tensor.__init__`: the flag is `requires_grad and gradient__` (the common wrapper body, `applyOp`, passes
    `any(operands require grad)` as `rg`); operands and backward function are kept only with the flag -/
theorem mkTensor_flag (st st' : TState α) (v : NDArray α) (dt : DType) (rg : Bool)
    (children : List Nat) (back : Option (NDArray α → Option (List (Option (NDArray α))))) (k : Nat)
    (h : mkTensor st v dt rg children back = some (st', k)) :
    ∃ n, st'.g[k]? = some n ∧ n.reqGrad = (rg && st.modes.grad) ∧
      n.children = (if rg && st.modes.grad then children else []) ∧
      n.back = (if rg && st.modes.grad then back else none) ∧ n.grad = none :=
  ⟨_, Proofs.Api.mkTensor_get h, rfl, rfl, rfl, rfl⟩

/-- **A result that does not require grad carries no backward function, no operands and no
    gradient.** -/
theorem no_grad_result_has_no_history (st st' : TState α) (v : NDArray α) (dt : DType) (rg : Bool)
    (children : List Nat) (back : Option (NDArray α → Option (List (Option (NDArray α))))) (k : Nat)
    (h : mkTensor st v dt rg children back = some (st', k)) (hno : (rg && st.modes.grad) = false) :
    ∃ n, st'.g[k]? = some n ∧ n.reqGrad = false ∧ n.back = none ∧ n.children = [] ∧ n.grad = none := by
  obtain ⟨n, a, b, c, d, e⟩ := mkTensor_flag st st' v dt rg children back k h
  exact ⟨n, a, by rw [b, hno], by rw [d, hno]; rfl, by rw [c, hno]; rfl, e⟩

/-- **Only floating-point tensors can be made to require grad**, at creation ... -/
theorem float_only (st : TState α) (v : NDArray α) (dt : DType)
    (children : List Nat) (back : Option (NDArray α → Option (List (Option (NDArray α)))))
    (hmode : st.modes.grad = true) (hdt : dt.isFloat = false) :
    mkTensor st v dt true children back = none := by
  simp [mkTensor, hmode, hdt]

/-- ... and through the setter, which moreover only works on leaves. -/
theorem setter_rules (st st' : TState α) (i : Nat) (b : Bool) (h : setRequiresGrad st i b = some st') :
    ∃ n dt, st.g[i]? = some n ∧ st.dtypes[i]? = some dt ∧ n.isLeaf = true ∧ (b = true → dt.isFloat = true) := by
  unfold setRequiresGrad at h
  split at h
  · rename_i n dt hn hd
    refine ⟨n, dt, hn, hd, ?_, ?_⟩
    · cases hl : n.isLeaf
      · simp [hl] at h
      · rfl
    · rintro rfl
      cases hf : dt.isFloat
      · cases hl : n.isLeaf <;> simp [hl, hf] at h
      · rfl
  · cases h

/-- **Every route that switches flags obeys the setter's rules** (`Module.freeze()` / `unfreeze()` on any ancestor: the
    setter applied to the listed tensors in turn).  A tensor the setter refuses ends the call: it is refused as a whole,
    the state is the one reached before that tensor ... -/
theorem route_refused (st : TState α) (i : Nat) (is : List Nat) (b : Bool) (h : setRequiresGrad st i b = none) :
    setRequiresGradAll st (i :: is) b = (st, false) := by
  simp [setRequiresGradAll, h]

/-- ... an accepted tensor hands the rest of the list to the same rule ... -/
theorem route_step (st st' : TState α) (i : Nat) (is : List Nat) (b : Bool) (h : setRequiresGrad st i b = some st') :
    setRequiresGradAll st (i :: is) b = setRequiresGradAll st' is b := by
  simp [setRequiresGradAll, h]

/-- ... so a call that is accepted has found its first tensor (and, by `route_step`, each one in turn) a leaf, floating-point when switching on. -/
theorem route_first_is_setter (st : TState α) (i : Nat) (is : List Nat) (b : Bool)
    (h : (setRequiresGradAll st (i :: is) b).2 = true) :
    ∃ n dt, st.g[i]? = some n ∧ st.dtypes[i]? = some dt ∧ n.isLeaf = true ∧ (b = true → dt.isFloat = true) := by
  cases hs : setRequiresGrad st i b with
  | none => rw [route_refused st i is b hs] at h; cases h
  | some st' => exact setter_rules st st' i b hs

/-- **A detached tensor is a plain tensor whatever its source holds**: it does not require grad, has no
    backward function, no operands and NO gradient — also when the source is a leaf after backward, a retained
    intermediate or the root of a call (all of which hold a buffer), and in either grad mode. -/
theorem detach_is_plain (st st' : TState α) (i k : Nat) (h : detach st i = some (st', k)) :
    ∃ n, st'.g[k]? = some n ∧ n.reqGrad = false ∧ n.back = none ∧ n.children = [] ∧ n.grad = none ∧ n.retain = false := by
  unfold detach at h
  split at h
  · exact ⟨_, Proofs.Api.mkTensor_get h, rfl, rfl, rfl, rfl, rfl⟩
  · cases h

/-- **The tensor handed out by the `.grad` getter is plain** (when there is a buffer at all). -/
theorem gradTensor_is_plain (st st' : TState α) (i k : Nat) (h : gradTensor st i = some (some (st', k))) :
    ∃ n, st'.g[k]? = some n ∧ n.reqGrad = false ∧ n.back = none ∧ n.children = [] ∧ n.grad = none := by
  unfold gradTensor at h
  split at h
  · split at h
    · simp only [Option.map_eq_some_iff, Option.some.injEq] at h
      obtain ⟨p, hp, rfl⟩ := h
      exact ⟨_, Proofs.Api.mkTensor_get hp, rfl, rfl, rfl, rfl⟩
    · cases h
  · cases h

/-- **The `.data` round trip follows the leaf-creation rule**: `Tensor(t.data, requires_grad=b)` requires grad iff
    `b` and the grad mode — nothing of the source's flags, history or buffer comes along. -/
theorem fromData_is_leaf (st st' : TState α) (i k : Nat) (b : Bool) (h : fromData st i b = some (st', k)) :
    ∃ n, st'.g[k]? = some n ∧ n.reqGrad = (b && st.modes.grad) ∧ n.back = none ∧ n.children = [] ∧ n.grad = none := by
  unfold fromData at h
  split at h
  · rename_i v dt _ _
    obtain ⟨n, a, b', c, d, e⟩ := mkTensor_flag st st' v dt b [] none k h
    exact ⟨n, a, b', d.trans (ite_self _), c.trans (ite_self _), e⟩
  · simp at h

/-- **The copy constructor `Tensor(t)` yields the source's node as it is** (`copy_from`: flags, operands, backward function,
    retain mark, gradient buffer) **and its value**; the dtype is not spoken of. -/
theorem copyTensor_same (st st' : TState α) (i k : Nat) (h : copyTensor st i = some (st', k)) :
    k = st.g.length ∧ st'.g[k]? = st.g[i]? ∧ st'.vals[st.vals.length]? = st.vals[i]? := by
  unfold copyTensor at h
  split at h
  · rename_i n v dt hn hv _
    cases h
    exact ⟨rfl, hn ▸ List.getElem?_concat_length, hv ▸ List.getElem?_concat_length⟩
  · cases h

variable [Add α]

/-- **backward() is refused on a tensor that does not require grad.** -/
theorem backward_refused (ns : Graph (NDArray α)) (root : Nat) (r : Node (NDArray α)) (g : NDArray α) (ra : Bool)
    (hr : ns[root]? = some r) (hrg : r.reqGrad = false) : Engine.backward ns root g ra = none := by
  simp [Engine.backward, hr, hrg]

/-- **Release rule**: after backward the root holds a gradient; a reachable non-leaf other than the
    root keeps its buffer iff marked with `retain_grad` or computed under `retain_grads`; reachable
    leaves that require grad hold a gradient. -/
theorem release_rule {G : Type} [Add G] (ns : Graph G) (hw : WFG ns) (hb : BacksTotal ns) (hq : BackImpliesReq ns)
    (root : Nat) (g : G) (retainAll : Bool)
    (ns' : Graph G) (tr : List TrEv) (h : Engine.backward ns root g retainAll = some (ns', tr))
    (v : Nat) (n n' : Node G) (hv : Reach ns root v) (hn : ns[v]? = some n) (hn' : ns'[v]? = some n') :
    (v = root → n'.grad.isSome = true) ∧
    (v ≠ root → n.isLeaf = false → (n'.grad.isSome = (n.retain || retainAll))) ∧
    (v ≠ root → n.isLeaf = true → n.reqGrad = true → n'.grad.isSome = true) :=
  Proofs.Engine.release_rule ns hw hb hq root g retainAll ns' tr h v n n' hv hn hn'

/-- **A tensor that does not require grad never acquires a gradient** through backward. -/
theorem never_acquires_grad {G : Type} [Add G] (ns : Graph G) (hw : WFG ns) (root : Nat) (g : G) (retainAll : Bool)
    (ns' : Graph G) (tr : List TrEv) (h : Engine.backward ns root g retainAll = some (ns', tr))
    (v : Nat) (n n' : Node G) (hv : v ≠ root) (hn : ns[v]? = some n) (hn' : ns'[v]? = some n')
    (hrg : n.reqGrad = false) : n'.grad = n.grad :=
  (backward_frame ns hw root g retainAll ns' tr h).2.2 v n n' hv hn hn' hrg

/-! ### Non-vacuity: nested blocks, a stale pre-constructed context -/
example : ∃ b : Block, b = .ctx .noGrad (.seq [.ctx .retainGrads (.seq []), .ctx .noGrad (.seq [])]) ∧
    runBlock true b ⟨true, false⟩ = ⟨true, false⟩ := ⟨_, rfl, modes_stack _ _ _⟩

end Props.C07
