import Proofs.FormulaTie
/-!
# C01 — the formulas of the source, read on this run, are derivatives of each other and are what the model applies

`Synap.Gen.*` (file `SynapModel/Generated/KernelFormulas.lean`) is regenerated from `/repo/synapgrad/cpu_ops.py` by
`harness/formulas.py` every time a check runs.  `SrcVJP fwd bwd dom` says: at every point of `dom`, `fwd` has a derivative `d`
and `bwd g x = g * d` — the scalar form of "backward is the vector-Jacobian product" for an elementwise op.  The `model_applies_src_*`
theorems say the model kernels (which the adjoint / engine theorems and the correspondence run are about) apply exactly these
formulas element by element.  Over ℝ; rounding is outside (see `ASSUMPTIONS` in the evidence).
-/
namespace Props.C01
open Synap Synap.NDArray Synap.Np Synap.Kernels Proofs.FormulaTie

theorem src_add_left_vjp (b : ℝ) : SrcVJP (fun a => Gen.add_forward a b) (fun g _ => (Gen.add_backward g).1) (fun _ => True) := src_add_left b
theorem src_add_right_vjp (a : ℝ) : SrcVJP (fun b => Gen.add_forward a b) (fun g _ => (Gen.add_backward g).2) (fun _ => True) := src_add_right a
theorem src_mul_left_vjp (b : ℝ) : SrcVJP (fun a => Gen.mul_forward a b) (fun g a => (Gen.mul_backward g a b).1) (fun _ => True) := src_mul_left b
theorem src_mul_right_vjp (a : ℝ) : SrcVJP (fun b => Gen.mul_forward a b) (fun g b => (Gen.mul_backward g a b).2) (fun _ => True) := src_mul_right a
theorem src_neg_vjp : SrcVJP Gen.neg_forward (fun g _ => Gen.neg_backward g) (fun _ => True) := src_neg
theorem src_clone_vjp : SrcVJP Gen.clone_forward (fun g _ => Gen.clone_backward g) (fun _ => True) := src_clone
theorem src_pow_vjp (n : ℝ) : SrcVJP (fun x => Gen.pow_forward x n) (fun g x => Gen.pow_backward g x n) (fun x => x ≠ 0 ∨ 1 ≤ n) := src_pow n
/-- `n ** x` for a base `n > 0`; the source's backward reads the forward result -/
theorem src_rpow_vjp (n : ℝ) (hn : 0 < n) :
    SrcVJP (fun x => Gen.rpow_forward x n) (fun g x => Gen.rpow_backward g (Gen.rpow_forward x n) n) (fun _ => True) := src_rpow n hn
theorem src_exp_vjp : SrcVJP Gen.exp_forward (fun g x => Gen.exp_backward g (Gen.exp_forward x)) (fun _ => True) := src_exp
/-- `log(x + ε)` as the source computes it, wherever `x + ε ≠ 0` (ε is the source's module constant, read on this run) -/
theorem src_log_vjp : SrcVJP Gen.log_forward Gen.log_backward (fun x => x + (Gen.epsilon_c : ℝ) ≠ 0) := src_log
theorem src_sqrt_vjp : SrcVJP Gen.sqrt_forward (fun g x => Gen.sqrt_backward g (Gen.sqrt_forward x)) (fun x => 0 < x) := src_sqrt

/-- the hypotheses are met: `log` at 1, `sqrt` at 4, `pow` at a negative base with an integer exponent -/
example : (1 : ℝ) + (Gen.epsilon_c : ℝ) ≠ 0 := (add_pos one_pos Proofs.NL.bce_epsilon_pos).ne'
example : ((-2 : ℝ) ≠ 0 ∨ (1 : ℝ) ≤ 3) := Or.inl (by norm_num)

/-! ### the model kernels apply the source's formulas element by element -/
theorem model_applies_src_neg (a g : NDArray ℝ) : negForward a = a.map Gen.neg_forward ∧ negBackward g = g.map Gen.neg_backward := lift_neg a g
theorem model_applies_src_exp (a g o : NDArray ℝ) : expForward a = a.map Gen.exp_forward ∧ expBackward g o = zipSame Gen.exp_backward g o := lift_exp a g o
theorem model_applies_src_log (a g : NDArray ℝ) : logForward a = a.map Gen.log_forward ∧ logBackward g a = zipSame Gen.log_backward g a := lift_log a g
theorem model_applies_src_sqrt (a g o : NDArray ℝ) : sqrtForward a = a.map Gen.sqrt_forward ∧ sqrtBackward g o = zipSame Gen.sqrt_backward g o := lift_sqrt a g o
theorem model_applies_src_pow (a g : NDArray ℝ) (n : ℝ) :
    powForward a n = a.map (fun x => Gen.pow_forward x n) ∧ powBackward g a n = zipSame (fun gv x => Gen.pow_backward gv x n) g a := lift_pow a g n
theorem model_applies_src_rpow (a g o : NDArray ℝ) (n : ℝ) :
    rpowForward a n = a.map (fun x => Gen.rpow_forward x n) ∧ rpowBackward g o n = zipSame (fun gv ov => Gen.rpow_backward gv ov n) g o := lift_rpow a g o n
theorem model_applies_src_add (a b : NDArray ℝ) (g : ℝ) : addForward a b = bcast2 Gen.add_forward a b ∧ Gen.add_backward g = (g, g) :=
  ⟨lift_add a b, gen_add_backward g⟩
theorem model_applies_src_mul (a b g : NDArray ℝ) : mulForward a b = bcast2 Gen.mul_forward a b ∧
    mulBackward g a b = (do
      let ga ← bcast2 (fun gv bv => (Gen.mul_backward gv 0 bv).1) g b
      let gb ← bcast2 (fun gv av => (Gen.mul_backward gv av 0).2) g a
      pure (unbroadcast ga a.shape, unbroadcast gb b.shape)) := lift_mul a b g

end Props.C01
