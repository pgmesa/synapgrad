import SynapModel.Optim
import SynapModel.OptimStore
import Proofs.AssocList
import Proofs.OptimStoreRefine
import Proofs.OptimStepTie
import Mathlib.Algebra.Field.Basic
import Mathlib.Tactic.Ring
/-!
# C08 — Optimizers follow the published SGD/Adam/AdamW update rules on any history

Statements about `Synap.Optim` (the model of synapgrad/optim/optimizers.py) over an arbitrary
field `α` with an arbitrary square-root function, for every hyper-parameter setting, every number
of parameters and every finite history over {backward, zero_grad, step, freeze/unfreeze}.  Then the same
histories over `Synap.OptimStore` (which array object holds a value: separation, in-place updates, refinement
of the value-level model; section `Store`), the counterexample for the aliased first momentum buffer, and the
tie of `sgdUpdate` / `adamUpdate` to the step bodies translated from the source (`src_*`).
-/
namespace Props.C08
-- without this alias Mathlib's class `Inv` is tried first at every occurrence of `Inv` below
export Proofs.OptimStore (Inv)
open Synap.Optim

variable {α : Type} [Field α] [HasSqrt α]

-- the statements about SGD do not use the square root: one `variable` line serves the whole file
set_option linter.unusedSectionVars false

/-- the configuration flags agree with the values they are computed from (`x != 0`) -/
def SGDCfg.Consistent (c : SGDCfg α) : Prop :=
  (c.useWd = false → c.weightDecay = 0) ∧ (c.useMom = false → c.momentum = 0)

/-- documented Adam / AdamW recursion for one parameter: state = (θ, m, v, t) -/
def adamSpecStep (c : AdamCfg α) (st : α × Moments α) (g : α) : α × Moments α :=
  let θ := st.1
  let t := st.2.t + 1
  let g := if c.maximize then -g else g
  let θ := if c.decoupled then θ - c.lr * c.weightDecay * θ else θ
  let g := if c.decoupled then g else g + c.weightDecay * θ
  let m := c.beta1 * st.2.m1 + (1 - c.beta1) * g
  let v := c.beta2 * st.2.m2 + (1 - c.beta2) * g ^ 2
  let mh := m / (1 - c.beta1 ^ t)
  let vh := v / (1 - c.beta2 ^ t)
  (θ - c.lr * mh / (HasSqrt.sqrt vh + c.eps), ⟨m, v, t⟩)


section Helpers
variable {β : Type}

theorem getElem?_modifyAt {γ : Type} (l : List γ) (i : Nat) (f : γ → γ) (k : Nat) :
    (modifyAt l i f)[k]? = (l[k]?).map (fun x => if i = k then f x else x) :=
  (List.getElem?_zipIdx_map_ite l i f k).trans (by simp only [eq_comm])

theorem length_modifyAt {γ : Type} (l : List γ) (i : Nat) (f : γ → γ) :
    (modifyAt l i f).length = l.length := by
  simp [modifyAt]

/-- the model seen from parameter `i` alone: what one event does to it and to its optimizer state -/
def sim1 (upd : α → α → β → α × β) (i : Nat) (st : P α × β) : Ev α → P α × β
  | .backward j g => (if j = i then accumulate st.1 g else st.1, st.2)
  | .zeroGrad => (zeroP st.1, st.2)
  | .setRg j b => (if j = i then { st.1 with rg := b } else st.1, st.2)
  | .step => stepP upd st.1 st.2

theorem sgdStepP_eq (c : SGDCfg α) (p : P α) (b : Option α) :
    sgdStepP c p b = stepP (sgdUpdate c) p b := by
  obtain ⟨θ, g, rg⟩ := p
  cases rg <;> rfl

theorem adamStepP_eq (c : AdamCfg α) (p : P α) (b : Moments α) :
    adamStepP c p b = stepP (adamUpdate c) p b := by
  obtain ⟨θ, g, rg⟩ := p
  cases rg <;> rfl

/-- one event of either optimizer, on the two lists of its state (`stp` = what `step` does to one
    parameter and its optimizer state) -/
def evL (stp : P α → β → P α × β) (s : List (P α) × List β) : Ev α → List (P α) × List β
  | .backward i g => (modifyAt s.1 i (fun p => accumulate p g), s.2)
  | .zeroGrad => (s.1.map zeroP, s.2)
  | .setRg i b => (modifyAt s.1 i (fun p => { p with rg := b }), s.2)
  | .step => ((List.zipWith stp s.1 s.2).map (·.1), (List.zipWith stp s.1 s.2).map (·.2))

theorem sgdEv_evL (c : SGDCfg α) (s : SGDState α) (e : Ev α) :
    ((sgdEv c s e).ps, (sgdEv c s e).bufs) = evL (sgdStepP c) (s.ps, s.bufs) e := by cases e <;> rfl

theorem adamEv_evL (c : AdamCfg α) (s : AdamState α) (e : Ev α) :
    ((adamEv c s e).ps, (adamEv c s e).mos) = evL (adamStepP c) (s.ps, s.mos) e := by cases e <;> rfl

theorem evL_sim (stp : P α → β → P α × β) (upd : α → α → β → α × β) (hstp : ∀ p b, stp p b = stepP upd p b)
    (s : List (P α) × List β) (i : Nat) (p : P α) (b : β)
    (hp : s.1[i]? = some p) (hb : s.2[i]? = some b) (e : Ev α) :
    (evL stp s e).1[i]? = some (sim1 upd i (p, b) e).1 ∧
    (evL stp s e).2[i]? = some (sim1 upd i (p, b) e).2 := by
  cases e with
  | backward j g => simp only [evL]; rw [getElem?_modifyAt, hp]; exact ⟨rfl, hb⟩
  | zeroGrad => simp only [evL]; rw [List.getElem?_map, hp]; exact ⟨rfl, hb⟩
  | setRg j r => simp only [evL]; rw [getElem?_modifyAt, hp]; exact ⟨rfl, hb⟩
  | step =>
    simp only [evL]
    rw [List.getElem?_map, List.getElem?_map, List.getElem?_zipWith, hp, hb]
    exact ⟨congrArg (fun x : P α × β => some x.1) (hstp p b), congrArg (fun x : P α × β => some x.2) (hstp p b)⟩

theorem sgdRun_sim (c : SGDCfg α) (evs : List (Ev α)) (s : SGDState α) (i : Nat) (p : P α)
    (b : Option α) (hp : s.ps[i]? = some p) (hb : s.bufs[i]? = some b) :
    (sgdRun c s evs).ps[i]? = some (evs.foldl (sim1 (sgdUpdate c) i) (p, b)).1 ∧
    (sgdRun c s evs).bufs[i]? = some (evs.foldl (sim1 (sgdUpdate c) i) (p, b)).2 :=
  List.foldl_rel (r := fun (s : SGDState α) (v : P α × Option α) => s.ps[i]? = some v.1 ∧ s.bufs[i]? = some v.2)
    ⟨hp, hb⟩ fun e _ s v h => by
      have := evL_sim (sgdStepP c) (sgdUpdate c) (sgdStepP_eq c) (s.ps, s.bufs) i v.1 v.2 h.1 h.2 e
      rwa [← sgdEv_evL] at this

theorem adamRun_sim (c : AdamCfg α) (evs : List (Ev α)) (s : AdamState α) (i : Nat) (p : P α)
    (b : Moments α) (hp : s.ps[i]? = some p) (hb : s.mos[i]? = some b) :
    (adamRun c s evs).ps[i]? = some (evs.foldl (sim1 (adamUpdate c) i) (p, b)).1 ∧
    (adamRun c s evs).mos[i]? = some (evs.foldl (sim1 (adamUpdate c) i) (p, b)).2 :=
  List.foldl_rel (r := fun (s : AdamState α) (v : P α × Moments α) => s.ps[i]? = some v.1 ∧ s.mos[i]? = some v.2)
    ⟨hp, hb⟩ fun e _ s v h => by
      have := evL_sim (adamStepP c) (adamUpdate c) (adamStepP_eq c) (s.ps, s.mos) i v.1 v.2 h.1 h.2 e
      rwa [← adamEv_evL] at this

theorem sim1_fold (upd : α → α → β → α × β) (i : Nat) (evs : List (Ev α)) (p : P α) (b : β) :
    ((evs.foldl (sim1 upd i) (p, b)).1.θ, (evs.foldl (sim1 upd i) (p, b)).2)
      = (effGrads i p.rg p.grad evs).foldl (fun st g => upd st.1 g st.2) (p.θ, b) := by
  induction evs generalizing p b with
  | nil => rfl
  | cons e es ih =>
    obtain ⟨θ, g0, rg⟩ := p
    rw [List.foldl_cons, ih]
    cases e with
    | backward j g =>
      by_cases hj : j = i
      · cases rg <;> simp only [sim1, effGrads, accumulate, hj, if_true, and_true, if_false, Bool.false_eq_true,
          and_false]
      · simp only [sim1, effGrads, hj, if_false, false_and]
    | zeroGrad => cases rg <;> rfl
    | setRg j r => by_cases hj : j = i <;> simp only [sim1, effGrads, hj, if_true, if_false]
    | step => cases rg <;> cases g0 <;> rfl

end Helpers


theorem sgdInit_bufs (ps : List (P α)) (i : Nat) (p : P α) (hp : ps[i]? = some p) :
    (sgdInit ps).bufs[i]? = some none := by
  simp only [sgdInit, List.getElem?_map, hp, Option.map_some]

theorem adamInit_mos (ps : List (P α)) (i : Nat) (p : P α) (hp : ps[i]? = some p) :
    (adamInit ps).mos[i]? = some ⟨0, 0, 0⟩ := by
  simp only [adamInit, List.getElem?_map, hp, Option.map_some]

theorem sim1_theta {β : Type} (upd : α → α → β → α × β) (i : Nat) (evs : List (Ev α)) (p : P α) (b : β)
    {o : Option (P α)} (h : o = some (evs.foldl (sim1 upd i) (p, b)).1) :
    ∃ q, o = some q ∧
      q.θ = ((effGrads i p.rg p.grad evs).foldl (fun st g => upd st.1 g st.2) (p.θ, b)).1 :=
  ⟨_, h, congrArg Prod.fst (sim1_fold upd i evs p b)⟩

theorem sgd_theta (c : SGDCfg α) (ps : List (P α)) (evs : List (Ev α)) (i : Nat) (p : P α)
    (hp : ps[i]? = some p) :
    ∃ q, (sgdRun c (sgdInit ps) evs).ps[i]? = some q ∧
      q.θ = ((effGrads i p.rg p.grad evs).foldl (fun st g => sgdUpdate c st.1 g st.2)
        (p.θ, none)).1 :=
  sim1_theta (sgdUpdate c) i evs p none (sgdRun_sim c evs (sgdInit ps) i p none hp (sgdInit_bufs ps i p hp)).1

theorem adam_theta (c : AdamCfg α) (ps : List (P α)) (evs : List (Ev α)) (i : Nat) (p : P α)
    (hp : ps[i]? = some p) :
    ∃ q, (adamRun c (adamInit ps) evs).ps[i]? = some q ∧
      q.θ = ((effGrads i p.rg p.grad evs).foldl (fun st g => adamUpdate c st.1 g st.2)
        (p.θ, ⟨0, 0, 0⟩)).1 :=
  sim1_theta (adamUpdate c) i evs p ⟨0, 0, 0⟩ (adamRun_sim c evs (adamInit ps) i p ⟨0, 0, 0⟩ hp (adamInit_mos ps i p hp)).1

/-- the code's test `weight_decay != 0` only skips adding `0 * θ` -/
theorem sgd_decay (c : SGDCfg α) (hc : SGDCfg.Consistent c) (g θ : α) :
    (if c.useWd then g + c.weightDecay * θ else g) = g + c.weightDecay * θ := by
  cases hw : c.useWd
  · simp [hc.1 hw]
  · rfl

theorem sgdUpdate_eq_spec (c : SGDCfg α) (hc : SGDCfg.Consistent c) (hm : c.useMom = true) :
    (fun (st : α × Option α) g => sgdUpdate c st.1 g st.2)
      = sgdSpecStep c.lr c.momentum c.dampening c.weightDecay c.nesterov c.maximize := by
  funext st g
  unfold sgdUpdate sgdSpecStep
  simp only [sgd_decay c hc, hm, if_true]

theorem sgdUpdate_plain (c : SGDCfg α) (hc : SGDCfg.Consistent c) (hm : c.useMom = false)
    (θ g : α) (b : Option α) :
    sgdUpdate c θ g b = (sgdSpecStepPlain c.lr c.weightDecay c.maximize θ g, b) := by
  unfold sgdUpdate sgdSpecStepPlain
  simp only [sgd_decay c hc, hm, Bool.false_eq_true, if_false]

theorem sgd_plain_fold (c : SGDCfg α) (hc : SGDCfg.Consistent c) (hm : c.useMom = false)
    (gs : List α) (θ : α) (b : Option α) :
    (gs.foldl (fun (st : α × Option α) g => sgdUpdate c st.1 g st.2) (θ, b)).1
      = gs.foldl (sgdSpecStepPlain c.lr c.weightDecay c.maximize) θ :=
  (List.foldl_hom Prod.fst fun st g => (congrArg Prod.fst (sgdUpdate_plain c hc hm st.1 g st.2)).symm).symm

/-- the only place where the code's test `weight_decay != 0` differs from the documented rule:
    adding `0 * θ` -/
theorem adam_decay (c : AdamCfg α) (hc : c.useWd = false → c.weightDecay = 0) (g θ : α) :
    (if !c.decoupled && c.useWd then g + c.weightDecay * θ else g)
      = if c.decoupled then g else g + c.weightDecay * θ := by
  cases c.decoupled
  · cases hw : c.useWd
    · simp [hc hw]
    · rfl
  · rfl

theorem adamUpdate_eq_spec (c : AdamCfg α) (hc : c.useWd = false → c.weightDecay = 0) :
    (fun (st : α × Moments α) g => adamUpdate c st.1 g st.2) = adamSpecStep c := by
  funext st g
  unfold adamUpdate adamSpecStep
  simp only [adam_decay c hc, pow_two]

/-- **SGD with momentum follows the documented recursion** on the effective gradients, for each
    parameter independently of all the others. -/
theorem sgd_refines (c : SGDCfg α) (hc : SGDCfg.Consistent c) (hm : c.useMom = true)
    (ps : List (P α)) (evs : List (Ev α)) (i : Nat) (p : P α) (hp : ps[i]? = some p) :
    ∃ q, (sgdRun c (sgdInit ps) evs).ps[i]? = some q ∧
      q.θ = ((effGrads i p.rg p.grad evs).foldl
        (sgdSpecStep c.lr c.momentum c.dampening c.weightDecay c.nesterov c.maximize) (p.θ, none)).1 := by
  rw [← sgdUpdate_eq_spec c hc hm]
  exact sgd_theta c ps evs i p hp

/-- **Plain SGD** (momentum = 0). -/
theorem sgd_plain_refines (c : SGDCfg α) (hc : SGDCfg.Consistent c) (hm : c.useMom = false)
    (ps : List (P α)) (evs : List (Ev α)) (i : Nat) (p : P α) (hp : ps[i]? = some p) :
    ∃ q, (sgdRun c (sgdInit ps) evs).ps[i]? = some q ∧
      q.θ = (effGrads i p.rg p.grad evs).foldl (sgdSpecStepPlain c.lr c.weightDecay c.maximize) p.θ := by
  rw [← sgd_plain_fold c hc hm _ p.θ none]
  exact sgd_theta c ps evs i p hp

/-- **Adam / AdamW follow the documented recursion**, with the bias-correction exponent counting
    the updates applied to that parameter. -/
theorem adam_refines (c : AdamCfg α) (hc : c.useWd = false → c.weightDecay = 0)
    (ps : List (P α)) (evs : List (Ev α)) (i : Nat) (p : P α) (hp : ps[i]? = some p) :
    ∃ q, (adamRun c (adamInit ps) evs).ps[i]? = some q ∧
      q.θ = ((effGrads i p.rg p.grad evs).foldl (adamSpecStep c) (p.θ, ⟨0, 0, 0⟩)).1 := by
  rw [← adamUpdate_eq_spec c hc]
  exact adam_theta c ps evs i p hp

def NeverUnfrozen (i : Nat) : List (Ev α) → Prop
  | [] => True
  | .setRg j b :: es => ¬ (j = i ∧ b = true) ∧ NeverUnfrozen i es
  | _ :: es => NeverUnfrozen i es

theorem effGrads_frozen (i : Nat) (g0 : Option α) (evs : List (Ev α)) (h : NeverUnfrozen i evs) :
    effGrads i false g0 evs = [] := by
  induction evs generalizing g0 with
  | nil => rfl
  | cons e es ih =>
    cases e with
    | backward j g => simpa [effGrads] using ih g0 h
    | zeroGrad => exact ih g0 h
    | step => exact ih g0 h
    | setRg j b =>
      obtain ⟨h1, h2⟩ := h
      by_cases hj : j = i
      · have hb : b = false := by
          cases b
          · rfl
          · exact absurd ⟨hj, rfl⟩ h1
        simpa [effGrads, hj, hb] using ih g0 h2
      · simpa [effGrads, hj] using ih g0 h2

theorem frozen_theta {β : Type} (upd : α → α → β → α × β) {i : Nat} {evs : List (Ev α)} {p q : P α} {b : β}
    (hθ : q.θ = ((effGrads i p.rg p.grad evs).foldl (fun st g => upd st.1 g st.2) (p.θ, b)).1)
    (hfrozen : p.rg = false) (h : NeverUnfrozen i evs) : q.θ = p.θ := by
  rw [hθ, hfrozen, effGrads_frozen i p.grad evs h]
  rfl

/-- **Frozen parameters stay fixed** (weight decay included) under SGD ... -/
theorem frozen_fixed_sgd (c : SGDCfg α) (ps : List (P α)) (evs : List (Ev α)) (i : Nat) (p : P α)
    (hp : ps[i]? = some p) (hfrozen : p.rg = false) (h : NeverUnfrozen i evs) :
    ∃ q, (sgdRun c (sgdInit ps) evs).ps[i]? = some q ∧ q.θ = p.θ := by
  obtain ⟨q, hq, hθ⟩ := sgd_theta c ps evs i p hp
  exact ⟨q, hq, frozen_theta _ hθ hfrozen h⟩

/-- ... and under Adam / AdamW. -/
theorem frozen_fixed_adam (c : AdamCfg α) (ps : List (P α)) (evs : List (Ev α)) (i : Nat) (p : P α)
    (hp : ps[i]? = some p) (hfrozen : p.rg = false) (h : NeverUnfrozen i evs) :
    ∃ q, (adamRun c (adamInit ps) evs).ps[i]? = some q ∧ q.θ = p.θ := by
  obtain ⟨q, hq, hθ⟩ := adam_theta c ps evs i p hp
  exact ⟨q, hq, frozen_theta _ hθ hfrozen h⟩

/-- the history without the `backward` / `setRg` events of the other parameters -/
def dropOther (i : Nat) : List (Ev α) → List (Ev α)
  | [] => []
  | .backward j g :: es => if j = i then .backward j g :: dropOther i es else dropOther i es
  | .setRg j b :: es => if j = i then .setRg j b :: dropOther i es else dropOther i es
  | e :: es => e :: dropOther i es

theorem sim1_dropOther {β : Type} (upd : α → α → β → α × β) (i : Nat) (evs : List (Ev α))
    (st : P α × β) :
    (dropOther i evs).foldl (sim1 upd i) st = evs.foldl (sim1 upd i) st := by
  induction evs generalizing st with
  | nil => rfl
  | cons e es ih =>
    cases e with
    | backward j g => by_cases hj : j = i <;> simp [dropOther, sim1, hj, ih]
    | zeroGrad => exact ih _
    | setRg j r => by_cases hj : j = i <;> simp [dropOther, sim1, hj, ih]
    | step => exact ih _

/-- the number of parameters never changes -/
theorem sgd_length (c : SGDCfg α) (ps : List (P α)) (evs : List (Ev α)) :
    (sgdRun c (sgdInit ps) evs).ps.length = ps.length := by
  suffices key : ∀ s : SGDState α, s.bufs.length = s.ps.length →
      (sgdRun c s evs).ps.length = s.ps.length from key (sgdInit ps) (List.length_map _)
  induction evs with
  | nil => intro s _; rfl
  | cons e es ih =>
    intro s hs
    have h1 : (sgdEv c s e).ps.length = s.ps.length ∧ (sgdEv c s e).bufs.length = s.ps.length := by
      cases e <;> simp [sgdEv, length_modifyAt, hs]
    show (sgdRun c (sgdEv c s e) es).ps.length = s.ps.length
    rw [ih (sgdEv c s e) (h1.2.trans h1.1.symm), h1.1]

/-- **Only the given parameter is touched by its own gradients**: deleting every event that
    concerns other parameters leaves the trajectory of parameter `i` unchanged. -/
theorem params_independent_sgd (c : SGDCfg α) (ps : List (P α)) (evs : List (Ev α)) (i : Nat) :
    ((sgdRun c (sgdInit ps) evs).ps[i]?).map (·.θ)
      = ((sgdRun c (sgdInit ps) (dropOther i evs)).ps[i]?).map (·.θ) := by
  cases hp : ps[i]? with
  | none =>
    have hi := List.getElem?_eq_none_iff.mp hp
    rw [List.getElem?_eq_none (by rw [sgd_length]; exact hi), List.getElem?_eq_none (by rw [sgd_length]; exact hi)]
  | some p =>
    have hb := sgdInit_bufs ps i p hp
    rw [(sgdRun_sim c evs (sgdInit ps) i p none hp hb).1,
      (sgdRun_sim c (dropOther i evs) (sgdInit ps) i p none hp hb).1, sim1_dropOther]

/-- closed form of plain SGD without weight decay: θ_n = θ_0 − lr · Σ g_k -/
theorem sgd_plain_closed (lr : α) (θ : α) (gs : List α) :
    gs.foldl (sgdSpecStepPlain lr 0 false) θ = θ - lr * gs.sum := by
  induction gs generalizing θ with
  | nil => simp
  | cons g gs ih =>
    rw [List.foldl_cons, ih, List.sum_cons]
    show θ - lr * (g + 0 * θ) - lr * gs.sum = _
    ring

example (lr θ g1 g2 : α) :
    [g1, g2].foldl (sgdSpecStepPlain lr 0 false) θ = θ - lr * (g1 + g2) := by
  rw [sgd_plain_closed, List.sum_cons, List.sum_cons, List.sum_nil, add_zero]

/-! ## The store model: buffers with identities (`Synap.OptimStore`)

`Synap.Optim` follows values; `Synap.OptimStore` follows *which array object* holds them: every
statement of optimizers.py / the backward closures is either allocating (fresh buffer) or in place.
The theorems below are about every reachable state of that model, for all hyper-parameters, all
numbers and shapes of parameters, all histories. -/
section Store
open Proofs.OptimStore
open Synap.OptimStore (Store slot rdBuf Role PS BufId)

/-- an event of the store model (gradients are whole arrays) -/
abbrev SEv (α : Type) := Synap.OptimStore.Ev α

/-- **Separation at every reachable state.**  From a state where every place (parameter data,
    gradient, momentum buffer / first moment, second moment) holds a buffer of the heap and no two
    places hold the same buffer, every history of SGD events and every history of Adam / AdamW
    events leads to such a state again. -/
theorem store_separation (s0 : Store α) (h0 : Inv s0) (evs : List (SEv α)) :
    (∀ c : SGDCfg α, Inv (Synap.OptimStore.sgdRun c s0 evs)) ∧
    (∀ c : AdamCfg α, Inv (Synap.OptimStore.adamRun c s0 evs)) :=
  ⟨fun c => (run_inv_frame (sgd_ok c) evs s0 h0).1, fun c => (run_inv_frame (adam_ok c) evs s0 h0).1⟩

/-- the same in the words of the property: after any history two different places never hold the
    same buffer -/
theorem store_separation_pairwise (s0 : Store α) (h0 : Inv s0) (evs : List (SEv α)) (c : SGDCfg α)
    (ca : AdamCfg α) (r r' : Role) (i i' : Nat) (hne : ¬ (r = r' ∧ i = i')) :
    (∀ x, slot (Synap.OptimStore.sgdRun c s0 evs) r i = some x →
      slot (Synap.OptimStore.sgdRun c s0 evs) r' i' ≠ some x) ∧
    (∀ x, slot (Synap.OptimStore.adamRun ca s0 evs) r i = some x →
      slot (Synap.OptimStore.adamRun ca s0 evs) r' i' ≠ some x) :=
  ⟨fun x h h' => hne (((store_separation s0 h0 evs).1 c).sep r i r' i' x h h'),
   fun x h h' => hne (((store_separation s0 h0 evs).2 ca).sep r i r' i' x h h')⟩

/-- a freshly built model (parameter `i` holds buffer `i`, no gradients, a new optimizer) is separated -/
theorem store_separation_initial (arrs : List (List α)) (rgs : List Bool) (h : rgs.length ≤ arrs.length) :
    Inv (Synap.OptimStore.mk arrs rgs) := inv_mk arrs rgs h

/-- **Optimizer state is never corrupted by gradient accumulation.**  At a separated state (hence
    at every reachable state, `store_separation`), every place other than a gradient — parameter
    data, momentum buffers, Adam moments — keeps its buffer *and its content* across a backward
    call (in-place accumulation `x._grad += g`, or the leaf-root form), and across `zero_grad`. -/
theorem state_not_corrupted_by_accumulation {s : Store α} (hI : Inv s) {r : Role} {j : Nat} {x : BufId}
    (hr : r ≠ .grad) (hx : slot s r j = some x) :
    (∀ i g, slot (Synap.OptimStore.accumulate s i g) r j = some x ∧
        rdBuf (Synap.OptimStore.accumulate s i g).heap x = rdBuf s.heap x) ∧
    (∀ i g, slot (Synap.OptimStore.accumulateRoot s i g) r j = some x ∧
        rdBuf (Synap.OptimStore.accumulateRoot s i g).heap x = rdBuf s.heap x) ∧
    (slot (Synap.OptimStore.zeroGrad s) r j = some x ∧
        rdBuf (Synap.OptimStore.zeroGrad s).heap x = rdBuf s.heap x) :=
  ⟨fun i g => engine_frame id hI (.backward i g) nofun hr hx,
   fun i g => engine_frame id hI (.backwardRoot i g) nofun hr hx, engine_frame id hI .zeroGrad nofun hr hx⟩

/-- ... spelled out, for a backward call, at the reachable states of an SGD run and of an Adam / AdamW run -/
theorem state_not_corrupted_reachable (s0 : Store α) (h0 : Inv s0) (evs : List (SEv α))
    (c : SGDCfg α) (ca : AdamCfg α) (r : Role) (j : Nat) (x : BufId) (hr : r ≠ .grad) (i : Nat) (g : List α) :
    (slot (Synap.OptimStore.sgdRun c s0 evs) r j = some x →
      slot (Synap.OptimStore.sgdRun c s0 (evs ++ [.backward i g])) r j = some x ∧
      rdBuf (Synap.OptimStore.sgdRun c s0 (evs ++ [.backward i g])).heap x
        = rdBuf (Synap.OptimStore.sgdRun c s0 evs).heap x) ∧
    (slot (Synap.OptimStore.adamRun ca s0 evs) r j = some x →
      slot (Synap.OptimStore.adamRun ca s0 (evs ++ [.backward i g])) r j = some x ∧
      rdBuf (Synap.OptimStore.adamRun ca s0 (evs ++ [.backward i g])).heap x
        = rdBuf (Synap.OptimStore.adamRun ca s0 evs).heap x) := by
  constructor
  · intro hx
    simp only [Synap.OptimStore.sgdRun, List.foldl_append, List.foldl_cons, List.foldl_nil]
    exact engine_frame _ ((store_separation s0 h0 evs).1 c) (.backward i g) nofun hr hx
  · intro hx
    simp only [Synap.OptimStore.adamRun, List.foldl_append, List.foldl_cons, List.foldl_nil]
    exact engine_frame id ((store_separation s0 h0 evs).2 ca) (.backward i g) nofun hr hx

/-- `zero_grad` installs new arrays and overwrites nothing: the arrays that were the gradients keep
    their content (whoever still holds them sees no change) -/
theorem zero_grad_overwrites_nothing {s : Store α} (hI : Inv s) {x : BufId} (hx : x < s.heap.length) :
    rdBuf (Synap.OptimStore.zeroGrad s).heap x = rdBuf s.heap x :=
  -- holds at any state: `hI` is not used
  (zeroGrad_moves s).1.ext.rd_eq hx fun h => h

/-- **A step changes no gradient buffer**: each parameter keeps its gradient array, with the same
    content, across `SGD.step` and `Adam.step` / `AdamW.step`. -/
theorem step_keeps_gradients {s : Store α} (hI : Inv s) {j : Nat} {x : BufId}
    (hx : slot s .grad j = some x) :
    (∀ c : SGDCfg α, slot (Synap.OptimStore.sgdStep c s) .grad j = some x ∧
        rdBuf (Synap.OptimStore.sgdStep c s).heap x = rdBuf s.heap x) ∧
    (∀ c : AdamCfg α, slot (Synap.OptimStore.adamStep c s) .grad j = some x ∧
        rdBuf (Synap.OptimStore.adamStep c s).heap x = rdBuf s.heap x) :=
  ⟨fun c => (sgd_loop c).keeps_grads nofun hI hx, fun c => (adam_loop c).keeps_grads (by simp) hI hx⟩

/-- **Updates are applied in place and touch nothing else.**  After any history (SGD; Adam/AdamW):
    (1) every parameter's data buffer id is the one it started with;
    (2) a buffer of the initial heap that no place holds — an array the optimizer was not given —
        keeps its content. -/
theorem updates_in_place (s0 : Store α) (h0 : Inv s0) (evs : List (SEv α)) :
    (∀ c : SGDCfg α,
      (∀ j, slot (Synap.OptimStore.sgdRun c s0 evs) .data j = slot s0 .data j) ∧
      (∀ x, x < s0.heap.length → (∀ r j, slot s0 r j ≠ some x) →
        rdBuf (Synap.OptimStore.sgdRun c s0 evs).heap x = rdBuf s0.heap x)) ∧
    (∀ c : AdamCfg α,
      (∀ j, slot (Synap.OptimStore.adamRun c s0 evs) .data j = slot s0 .data j) ∧
      (∀ x, x < s0.heap.length → (∀ r j, slot s0 r j ≠ some x) →
        rdBuf (Synap.OptimStore.adamRun c s0 evs).heap x = rdBuf s0.heap x)) :=
  ⟨fun c => (run_inv_frame (sgd_ok c) evs s0 h0).2, fun c => (run_inv_frame (adam_ok c) evs s0 h0).2⟩

/-- (3) a step leaves the data of a parameter that does not require grad, or that has no
    gradient, untouched — whatever the weight decay; its record (ids, flag) is never changed by a step -/
theorem step_keeps_frozen {s : Store α} (hI : Inv s) {j : Nat} {p : PS} (hp : s.ps[j]? = some p)
    (h : p.rg = false ∨ p.grad = none) :
    (∀ c : SGDCfg α, rdBuf (Synap.OptimStore.sgdStep c s).heap p.data = rdBuf s.heap p.data ∧
        (Synap.OptimStore.sgdStep c s).ps = s.ps) ∧
    (∀ c : AdamCfg α, rdBuf (Synap.OptimStore.adamStep c s).heap p.data = rdBuf s.heap p.data ∧
        (Synap.OptimStore.adamStep c s).ps = s.ps) :=
  ⟨fun c => ⟨(sgd_loop c).keeps_inactive hI hp h, ((sgd_loop c).all s).2⟩,
   fun c => ⟨(adam_loop c).keeps_inactive hI hp h, ((adam_loop c).all s).2⟩⟩

/-- the value-level event that element `k` sees -/
def evAt (k : Nat) : SEv α → Ev α
  | .backward i g => .backward i (g.getD k 0)
  | .backwardRoot i g => .backward i (g.getD k 0)
  | .zeroGrad => .zeroGrad
  | .step => .step
  | .setRg i b => .setRg i b

/-- every gradient array delivered to parameter `i` has an element `k` (shapes match) -/
def CoversEv (i k : Nat) : SEv α → Prop
  | .backward j g => j = i → k < g.length
  | .backwardRoot j g => j = i → k < g.length
  | _ => True

theorem getD_of_lt (g : List α) (k : Nat) (h : k < g.length) : g[k]? = some (g.getD k 0) := by
  simp [List.getElem?_eq_getElem h]

/-- **Every event commutes with the abstraction**, for any optimizer over the engine: if `q` is
    element `k` of parameter `i` in `s` and the optimizer's state there is `b` (`R s b`: the momentum
    buffer's element for SGD, the two moments' elements and the step counter for Adam / AdamW), then
    after the store event they are what the value-level event makes of `q`, `b`. -/
theorem event_refines {β : Type} {i k : Nat} (step : Store α → Store α) (upd : α → α → β → α × β)
    (R : Store α → β → Prop) (hR : ∀ b, OptRel i (fun s => R s b))
    (hstep : ∀ {s : Store α} {q b}, Inv s → AbsP s i k q → R s b →
      AbsP (step s) i k (stepP upd q b).1 ∧ R (step s) (stepP upd q b).2)
    {s : Store α} (hI : Inv s) {q : P α} {b : β} (a : AbsP s i k q) (r : R s b)
    (e : SEv α) (hc : CoversEv i k e) :
    AbsP (Synap.OptimStore.sgdEvG step s e) i k (sim1 upd i (q, b) (evAt k e)).1 ∧
    R (Synap.OptimStore.sgdEvG step s e) (sim1 upd i (q, b) (evAt k e)).2 := by
  cases e with
  | step => exact hstep hI a r
  | backward j g =>
    exact ⟨accumulate_abs hI j g (fun h => getD_of_lt g k (hc h)) a, engine_keeps (hR b) step hI _ nofun r⟩
  | backwardRoot j g =>
    exact ⟨accumulateRoot_abs zero_add hI j g (fun h => getD_of_lt g k (hc h)) a,
      engine_keeps (hR b) step hI _ nofun r⟩
  | zeroGrad => exact ⟨zeroGrad_abs hI a, engine_keeps (hR b) step hI _ nofun r⟩
  | setRg j x => exact ⟨setRg_abs j x a, engine_keeps (hR b) step hI _ nofun r⟩

/-- … and so does every history whose gradient arrays have an element `k` for parameter `i` -/
theorem run_refines {β : Type} {i k : Nat} {step : Store α → Store α} (hs : StepOK step)
    (upd : α → α → β → α × β) (R : Store α → β → Prop) (hR : ∀ b, OptRel i (fun s => R s b))
    (hstep : ∀ {s : Store α} {q b}, Inv s → AbsP s i k q → R s b →
      AbsP (step s) i k (stepP upd q b).1 ∧ R (step s) (stepP upd q b).2)
    (evs : List (SEv α)) (hc : ∀ e ∈ evs, CoversEv i k e) {s : Store α} {q : P α} {b : β}
    (hI : Inv s) (a : AbsP s i k q) (r : R s b) :
    Inv (evs.foldl (Synap.OptimStore.sgdEvG step) s) ∧
    AbsP (evs.foldl (Synap.OptimStore.sgdEvG step) s) i k ((evs.map (evAt k)).foldl (sim1 upd i) (q, b)).1 ∧
    R (evs.foldl (Synap.OptimStore.sgdEvG step) s) ((evs.map (evAt k)).foldl (sim1 upd i) (q, b)).2 := by
  rw [List.foldl_map]
  exact List.foldl_rel (r := fun (s : Store α) (v : P α × β) => Inv s ∧ AbsP s i k v.1 ∧ R s v.2)
    ⟨hI, a, r⟩ fun e he s v h =>
      ⟨(run_inv_frame hs [e] s h.1).1,
       event_refines step upd R hR hstep h.1 h.2.1 h.2.2 e (hc e he)⟩

/-- **Every event commutes with the abstraction** (SGD): if `q`, `b` are element `k` of parameter
    `i` and of its momentum buffer in `s`, then after the store event they are what the
    value-level event makes of `q`, `b`. -/
theorem store_event_refines_sgd (c : SGDCfg α) {s : Store α} (hI : Inv s) {i k : Nat} {q : P α}
    {b : Option α} (a : AbsP s i k q) (ab : AbsB s i k b) (e : SEv α) (hc : CoversEv i k e) :
    AbsP (Synap.OptimStore.sgdEv c s e) i k (sim1 (sgdUpdate c) i (q, b) (evAt k e)).1 ∧
    AbsB (Synap.OptimStore.sgdEv c s e) i k (sim1 (sgdUpdate c) i (q, b) (evAt k e)).2 :=
  event_refines (Synap.OptimStore.sgdStep c) (sgdUpdate c) (fun s b => AbsB s i k b) (absB_optRel i k)
    (sgdStep_abs c) hI a ab e hc

/-- **Every event commutes with the abstraction** (Adam / AdamW): `q` = element `k` of parameter
    `i`, `mo` = element `k` of its two moment arrays (a moment that is still the integer 0 reads as
    0) together with its step counter. -/
theorem store_event_refines_adam (c : AdamCfg α) {s : Store α} (hI : Inv s) {i k : Nat} {q : P α}
    {mo : Moments α} (a : AbsP s i k q) (am : AbsMo s i k mo) (e : SEv α) (hc : CoversEv i k e) :
    AbsP (Synap.OptimStore.adamEv c s e) i k (sim1 (adamUpdate c) i (q, mo) (evAt k e)).1 ∧
    AbsMo (Synap.OptimStore.adamEv c s e) i k (sim1 (adamUpdate c) i (q, mo) (evAt k e)).2 :=
  event_refines (Synap.OptimStore.adamStep c) (adamUpdate c)
    (fun s mo => AbsMo s i k mo) (absMo_optRel i k) (adamStep_abs c) hI a am e hc

theorem sgdRun_abs (c : SGDCfg α) {i k : Nat} (evs : List (SEv α)) (hc : ∀ e ∈ evs, CoversEv i k e)
    {s : Store α} {q : P α} {b : Option α} (hI : Inv s) (a : AbsP s i k q) (ab : AbsB s i k b) :
    Inv (Synap.OptimStore.sgdRun c s evs) ∧
    AbsP (Synap.OptimStore.sgdRun c s evs) i k ((evs.map (evAt k)).foldl (sim1 (sgdUpdate c) i) (q, b)).1 ∧
    AbsB (Synap.OptimStore.sgdRun c s evs) i k ((evs.map (evAt k)).foldl (sim1 (sgdUpdate c) i) (q, b)).2 :=
  run_refines (sgd_ok c) (sgdUpdate c) (fun s b => AbsB s i k b) (absB_optRel i k)
    (sgdStep_abs c) evs hc hI a ab

theorem adamRun_abs (c : AdamCfg α) {i k : Nat} (evs : List (SEv α)) (hc : ∀ e ∈ evs, CoversEv i k e)
    {s : Store α} {q : P α} {mo : Moments α} (hI : Inv s) (a : AbsP s i k q) (am : AbsMo s i k mo) :
    Inv (Synap.OptimStore.adamRun c s evs) ∧
    AbsP (Synap.OptimStore.adamRun c s evs) i k ((evs.map (evAt k)).foldl (sim1 (adamUpdate c) i) (q, mo)).1 ∧
    AbsMo (Synap.OptimStore.adamRun c s evs) i k ((evs.map (evAt k)).foldl (sim1 (adamUpdate c) i) (q, mo)).2 :=
  run_refines (adam_ok c) (adamUpdate c) (fun s mo => AbsMo s i k mo)
    (absMo_optRel i k) (adamStep_abs c) evs hc hI a am

/-- the shape of a parameter never shrinks below an element that every gradient array covers:
    element `k` of the data buffer still exists after the history -/
theorem data_element_kept (c : SGDCfg α) (s0 : Store α) (h0 : Inv s0) (evs : List (SEv α))
    (i k : Nat) (hc : ∀ e ∈ evs, CoversEv i k e) (q : P α) (a : AbsP s0 i k q) (ab : AbsB s0 i k none) :
    ∃ p, (Synap.OptimStore.sgdRun c s0 evs).ps[i]? = some p ∧
      k < (rdBuf (Synap.OptimStore.sgdRun c s0 evs).heap p.data).length := by
  obtain ⟨-, ⟨p, hp, hθ, -, -⟩, -⟩ := sgdRun_abs c evs hc h0 a ab
  exact ⟨p, hp, (List.getElem?_eq_some_iff.mp hθ).1⟩

/-- **The store model refines the value-level model** (SGD, all variants): for any history whose
    gradient arrays have an element `k` for parameter `i`, element `k` of parameter `i` and of its
    momentum buffer after the store run are exactly what the value-level model `Synap.Optim`
    computes from the initial element on the sliced history — for *any* list `ps` of value-level
    parameters that has `q` at index `i` (the other parameters do not matter). -/
theorem store_refines_value_model (c : SGDCfg α) (s0 : Store α) (h0 : Inv s0) (evs : List (SEv α))
    (i k : Nat) (hc : ∀ e ∈ evs, CoversEv i k e) (q : P α) (a : AbsP s0 i k q) (ab : AbsB s0 i k none)
    (ps : List (P α)) (hps : ps[i]? = some q) :
    ∃ q' b', (sgdRun c (sgdInit ps) (evs.map (evAt k))).ps[i]? = some q' ∧
      (sgdRun c (sgdInit ps) (evs.map (evAt k))).bufs[i]? = some b' ∧
      AbsP (Synap.OptimStore.sgdRun c s0 evs) i k q' ∧ AbsB (Synap.OptimStore.sgdRun c s0 evs) i k b' := by
  obtain ⟨h1, h2⟩ := sgdRun_sim c (evs.map (evAt k)) (sgdInit ps) i q none hps (sgdInit_bufs ps i q hps)
  exact ⟨_, _, h1, h2, (sgdRun_abs c evs hc h0 a ab).2⟩

/-- **Transferred trajectory theorem** (`sgd_refines` on the store model): with momentum, every
    element of every parameter's data buffer — the array object the model holds, updated in place —
    follows the documented SGD recursion on its effective gradients. -/
theorem store_sgd_refines (c : SGDCfg α) (hcfg : SGDCfg.Consistent c) (hm : c.useMom = true)
    (s0 : Store α) (h0 : Inv s0) (evs : List (SEv α)) (i k : Nat) (hc : ∀ e ∈ evs, CoversEv i k e)
    (q : P α) (a : AbsP s0 i k q) (ab : AbsB s0 i k none) :
    ∃ p, (Synap.OptimStore.sgdRun c s0 evs).ps[i]? = some p ∧
      val (Synap.OptimStore.sgdRun c s0 evs).heap p.data k
        = some ((effGrads i q.rg q.grad (evs.map (evAt k))).foldl
            (sgdSpecStep c.lr c.momentum c.dampening c.weightDecay c.nesterov c.maximize) (q.θ, none)).1 := by
  obtain ⟨-, ⟨p, hp, hθ, -, -⟩, -⟩ := sgdRun_abs c evs hc h0 a ab
  rw [← sgdUpdate_eq_spec c hcfg hm, ← sim1_fold]
  exact ⟨p, hp, hθ⟩

/-- ... and plain SGD (`sgd_plain_refines` on the store model) -/
theorem store_sgd_plain_refines (c : SGDCfg α) (hcfg : SGDCfg.Consistent c) (hm : c.useMom = false)
    (s0 : Store α) (h0 : Inv s0) (evs : List (SEv α)) (i k : Nat) (hc : ∀ e ∈ evs, CoversEv i k e)
    (q : P α) (a : AbsP s0 i k q) (ab : AbsB s0 i k none) :
    ∃ p, (Synap.OptimStore.sgdRun c s0 evs).ps[i]? = some p ∧
      val (Synap.OptimStore.sgdRun c s0 evs).heap p.data k
        = some ((effGrads i q.rg q.grad (evs.map (evAt k))).foldl
            (sgdSpecStepPlain c.lr c.weightDecay c.maximize) q.θ) := by
  obtain ⟨-, ⟨p, hp, hθ, -, -⟩, -⟩ := sgdRun_abs c evs hc h0 a ab
  rw [← sgd_plain_fold c hcfg hm _ q.θ none, ← sim1_fold]
  exact ⟨p, hp, hθ⟩

/-- **No array ever gets longer**: in-place statements are elementwise over the old content,
    allocating statements do not touch existing buffers (SGD; Adam / AdamW; any history). -/
theorem arrays_never_grow (s0 : Store α) (evs : List (SEv α)) (x : BufId) (hx : x < s0.heap.length) :
    (∀ c : SGDCfg α, (rdBuf (Synap.OptimStore.sgdRun c s0 evs).heap x).length ≤ (rdBuf s0.heap x).length) ∧
    (∀ c : AdamCfg α, (rdBuf (Synap.OptimStore.adamRun c s0 evs).heap x).length ≤ (rdBuf s0.heap x).length) :=
  ⟨fun c => ((run_ext (sgd_ok c) evs s0).2 x hx).1,
   fun c => ((run_ext (adam_ok c) evs s0).2 x hx).1⟩

theorem shape_kept {step : Store α → Store α} (hs : StepOK step) (s0 : Store α) (h0 : Inv s0)
    (evs : List (SEv α)) (i : Nat) (p0 : PS) (hp0 : s0.ps[i]? = some p0)
    (hk : ∀ k, k < (rdBuf s0.heap p0.data).length →
      ∃ q, AbsP (evs.foldl (Synap.OptimStore.sgdEvG step) s0) i k q) :
    ∃ p, (evs.foldl (Synap.OptimStore.sgdEvG step) s0).ps[i]? = some p ∧ p.data = p0.data ∧
      (rdBuf (evs.foldl (Synap.OptimStore.sgdEvG step) s0).heap p.data).length
        = (rdBuf s0.heap p0.data).length := by
  have hd := (run_inv_frame hs evs s0 h0).2.1 i
  rw [slot_data_of hp0] at hd
  obtain ⟨p, hp, hpd⟩ := Option.map_eq_some_iff.mp hd
  -- no array grows; were it shorter, the element at its new length would be lost
  refine ⟨p, hp, hpd, Nat.le_antisymm ?_ (Nat.le_of_not_lt fun hlt => ?_)⟩
  · rw [hpd]
    exact ((run_ext hs evs s0).2 p0.data (h0.bounded .data i _ (slot_data_of hp0))).1
  · obtain ⟨q, p', hp', hθ, -⟩ := hk _ hlt
    rw [hp] at hp'; cases hp'
    exact Nat.lt_irrefl _ (List.getElem?_eq_some_iff.mp hθ).1

/-- **Shape kept** (SGD): when every gradient array delivered to parameter `i` covers the shape
    of its data (and so does the initial gradient buffer, if any; new optimizer), then after any
    history parameter `i` holds the same data buffer, of the same length. -/
theorem data_shape_kept (c : SGDCfg α) (s0 : Store α) (h0 : Inv s0) (evs : List (SEv α)) (i : Nat)
    (p0 : PS) (hp0 : s0.ps[i]? = some p0)
    (hc : ∀ k, k < (rdBuf s0.heap p0.data).length →
      (∀ e ∈ evs, CoversEv i k e) ∧ (∃ q, AbsP s0 i k q) ∧ AbsB s0 i k none) :
    ∃ p, (Synap.OptimStore.sgdRun c s0 evs).ps[i]? = some p ∧ p.data = p0.data ∧
      (rdBuf (Synap.OptimStore.sgdRun c s0 evs).heap p.data).length = (rdBuf s0.heap p0.data).length :=
  shape_kept (sgd_ok c) s0 h0 evs i p0 hp0 fun k hk => by
    obtain ⟨hcov, ⟨_, a⟩, ab⟩ := hc k hk
    exact ⟨_, (sgdRun_abs c evs hcov h0 a ab).2.1⟩

/-- **The store model refines the value-level model** (Adam / AdamW). -/
theorem store_refines_value_model_adam (c : AdamCfg α) (s0 : Store α) (h0 : Inv s0) (evs : List (SEv α))
    (i k : Nat) (hc : ∀ e ∈ evs, CoversEv i k e) (q : P α) (a : AbsP s0 i k q)
    (am : AbsMo s0 i k ⟨0, 0, 0⟩) (ps : List (P α)) (hps : ps[i]? = some q) :
    ∃ q' mo', (adamRun c (adamInit ps) (evs.map (evAt k))).ps[i]? = some q' ∧
      (adamRun c (adamInit ps) (evs.map (evAt k))).mos[i]? = some mo' ∧
      AbsP (Synap.OptimStore.adamRun c s0 evs) i k q' ∧ AbsMo (Synap.OptimStore.adamRun c s0 evs) i k mo' := by
  obtain ⟨h1, h2⟩ := adamRun_sim c (evs.map (evAt k)) (adamInit ps) i q ⟨0, 0, 0⟩ hps (adamInit_mos ps i q hps)
  exact ⟨_, _, h1, h2, (adamRun_abs c evs hc h0 a am).2⟩

/-- **Transferred trajectory theorem** (`adam_refines` on the store model): every element of every
    parameter's data buffer follows the documented Adam / AdamW recursion on its effective
    gradients, with the bias-correction exponent counting the updates applied to that parameter. -/
theorem store_adam_refines (c : AdamCfg α) (hcfg : c.useWd = false → c.weightDecay = 0)
    (s0 : Store α) (h0 : Inv s0) (evs : List (SEv α)) (i k : Nat) (hc : ∀ e ∈ evs, CoversEv i k e)
    (q : P α) (a : AbsP s0 i k q) (am : AbsMo s0 i k ⟨0, 0, 0⟩) :
    ∃ p, (Synap.OptimStore.adamRun c s0 evs).ps[i]? = some p ∧
      val (Synap.OptimStore.adamRun c s0 evs).heap p.data k
        = some ((effGrads i q.rg q.grad (evs.map (evAt k))).foldl (adamSpecStep c) (q.θ, ⟨0, 0, 0⟩)).1 := by
  obtain ⟨-, ⟨p, hp, hθ, -, -⟩, -⟩ := adamRun_abs c evs hc h0 a am
  rw [← adamUpdate_eq_spec c hcfg, ← sim1_fold]
  exact ⟨p, hp, hθ⟩

/-- **Shape kept** (Adam / AdamW). -/
theorem data_shape_kept_adam (c : AdamCfg α) (s0 : Store α) (h0 : Inv s0) (evs : List (SEv α)) (i : Nat)
    (p0 : PS) (hp0 : s0.ps[i]? = some p0)
    (hc : ∀ k, k < (rdBuf s0.heap p0.data).length →
      (∀ e ∈ evs, CoversEv i k e) ∧ (∃ q, AbsP s0 i k q) ∧ AbsMo s0 i k ⟨0, 0, 0⟩) :
    ∃ p, (Synap.OptimStore.adamRun c s0 evs).ps[i]? = some p ∧ p.data = p0.data ∧
      (rdBuf (Synap.OptimStore.adamRun c s0 evs).heap p.data).length = (rdBuf s0.heap p0.data).length :=
  shape_kept (adam_ok c) s0 h0 evs i p0 hp0 fun k hk => by
    obtain ⟨hcov, ⟨_, a⟩, am⟩ := hc k hk
    exact ⟨_, (adamRun_abs c evs hcov h0 a am).2.1⟩

/-! ### What the private copy buys: the defective variant (first momentum buffer = the gradient array) -/

/-- lr = 1, momentum = 1, no dampening, no weight decay, over the integers -/
def cexCfg : SGDCfg Int := ⟨1, 1, 0, 0, false, true, false, false⟩
/-- backward, step, backward (no zero_grad), step on one parameter `[0]` with gradient `[1]` each time -/
def cexEvs : List (Synap.OptimStore.Ev Int) := [.backward 0 [1], .step, .backward 0 [1], .step]
def cexInit : Store Int := Synap.OptimStore.mk [[0]] [true]

/-- **Counterexample for the variant that stores `grad` itself as first momentum buffer**
    (`sgdStepAliased`), machine-checked by evaluation:
    after backward, step the momentum place holds the gradient's buffer (separation is broken);
    the next backward — without `zero_grad` — changes the momentum buffer's content from `[1]` to
    `[2]`; after the second step the momentum buffer holds `[4]` and the parameter `[-5]`, whereas
    the value-level model (and the store model with the private copy) give `3` and `-4`. -/
theorem aliased_first_buffer_counterexample :
    -- the alias
    slot (Synap.OptimStore.sgdRunAliased cexCfg cexInit (cexEvs.take 2)) .b1 0 = some 1 ∧
    slot (Synap.OptimStore.sgdRunAliased cexCfg cexInit (cexEvs.take 2)) .grad 0 = some 1 ∧
    ¬ Inv (Synap.OptimStore.sgdRunAliased cexCfg cexInit (cexEvs.take 2)) ∧
    -- the corruption by gradient accumulation
    rdBuf (Synap.OptimStore.sgdRunAliased cexCfg cexInit (cexEvs.take 2)).heap 1 = [1] ∧
    slot (Synap.OptimStore.sgdRunAliased cexCfg cexInit (cexEvs.take 3)) .b1 0 = some 1 ∧
    rdBuf (Synap.OptimStore.sgdRunAliased cexCfg cexInit (cexEvs.take 3)).heap 1 = [2] ∧
    -- the wrong trajectory
    slot (Synap.OptimStore.sgdRunAliased cexCfg cexInit cexEvs) .b1 0 = some 2 ∧
    rdBuf (Synap.OptimStore.sgdRunAliased cexCfg cexInit cexEvs).heap 2 = [4] ∧
    rdBuf (Synap.OptimStore.sgdRunAliased cexCfg cexInit cexEvs).heap 0 = [-5] ∧
    -- the value-level model
    (sgdRun cexCfg (sgdInit [⟨0, none, true⟩]) [.backward 0 1, .step, .backward 0 1, .step]).bufs = [some 3] ∧
    (sgdRun cexCfg (sgdInit [⟨0, none, true⟩]) [.backward 0 1, .step, .backward 0 1, .step]).ps.map (·.θ) = [-4] ∧
    -- the code (private copy): same as the value-level model, momentum buffer untouched by the backward
    rdBuf (Synap.OptimStore.sgdRun cexCfg cexInit (cexEvs.take 2)).heap 2 = [1] ∧
    rdBuf (Synap.OptimStore.sgdRun cexCfg cexInit (cexEvs.take 3)).heap 2 = [1] ∧
    slot (Synap.OptimStore.sgdRun cexCfg cexInit cexEvs) .b1 0 = some 3 ∧
    rdBuf (Synap.OptimStore.sgdRun cexCfg cexInit cexEvs).heap 3 = [3] ∧
    rdBuf (Synap.OptimStore.sgdRun cexCfg cexInit cexEvs).heap 0 = [-4] := by
  refine ⟨by decide +kernel, by decide +kernel, fun h => ?_, by decide +kernel⟩
  exact nomatch (h.sep .b1 0 .grad 0 1 (by decide +kernel) (by decide +kernel)).1

/-! ### Non-vacuity of the hypotheses -/

/-- `Inv` holds for a freshly built model with two parameters, one of them frozen … -/
example : Inv (Synap.OptimStore.mk [[1, 2], [3]] [true, false] : Store Int) :=
  inv_mk _ _ (by decide)

/-- … the abstraction is defined there: element 1 of parameter 0 is `2`, no gradient, trainable;
    its momentum buffer is absent … -/
example : AbsP (Synap.OptimStore.mk [[1, 2], [3]] [true, false] : Store Int) 0 1 ⟨2, none, true⟩ :=
  ⟨⟨0, none, true⟩, by decide, by decide, by decide, rfl⟩
example : AbsB (Synap.OptimStore.mk [[1, 2], [3]] [true, false] : Store Int) 0 1 none :=
  ⟨none, by decide, by decide⟩
example : AbsMo (Synap.OptimStore.mk [[1, 2], [3]] [true, false] : Store Int) 0 1 ⟨0, 0, 0⟩ :=
  ⟨none, none, none, none, by decide, by decide, by decide, by decide, by decide, rfl, rfl⟩

/-- … a history with two backward calls per step and no zero_grad is covered at element 1 … -/
example : ∀ e ∈ ([.backward 0 [1, 1], .backward 0 [2, 2], .step, .backward 0 [1, 0], .step] :
    List (Synap.OptimStore.Ev Int)), (match e with
      | .backward j g => j = 0 → 1 < g.length
      | .backwardRoot j g => j = 0 → 1 < g.length
      | _ => True) := by
  intro e he
  simp only [List.mem_cons, List.not_mem_nil, or_false] at he
  rcases he with rfl | rfl | rfl | rfl | rfl <;> simp

/-- … and after it (code variant) the places are still pairwise separated: the live ids are
    data 0, 1, gradient 2, momentum buffer 4 (3 was the first momentum buffer, now garbage) -/
example : Synap.OptimStore.liveIds (Synap.OptimStore.sgdRun cexCfg
      (Synap.OptimStore.mk [[1, 2], [3]] [true, false])
      [.backward 0 [1, 1], .backward 0 [2, 2], .step, .backward 0 [1, 0], .step]) = [0, 1, 2, 4] := by
  decide +kernel

end Store

/-! ### The step bodies of the source, as translated on this run (`Synap.Gen.*_step`, file `Generated/OptimSteps.lean`, rewritten
    from `optimizers.py` by `harness/optim_formulas.py` every time the check runs), are the model's update functions — and hence
    the published rules.  The Boolean arguments are named after the tests the source makes. -/

theorem src_sgd_step_is_model (c : SGDCfg α) (θ g : α) (buf : Option α) :
    Synap.Gen.sgd_step (dampening := c.dampening) (lr := c.lr) (momentum := c.momentum) (weight_decay := c.weightDecay)
      (maximize := c.maximize) (momentum_ne_0 := c.useMom) (nesterov := c.nesterov) (weight_decay_ne_0 := c.useWd) θ g buf
    = sgdUpdate c θ g buf := Proofs.OptimStepTie.sgd_step_eq c θ g buf

theorem src_adam_step_is_model (c : AdamCfg α) (hd : c.decoupled = false) (θ g : α) (mo : Moments α) :
    Synap.Gen.adam_step (beta1 := c.beta1) (beta2 := c.beta2) (epsilon := c.eps) (lr := c.lr) (weight_decay := c.weightDecay)
      (maximize := c.maximize) (weight_decay_ne_0 := c.useWd) θ g mo.m1 mo.m2 mo.t
    = ((adamUpdate c θ g mo).1, (adamUpdate c θ g mo).2.m1, (adamUpdate c θ g mo).2.m2, (adamUpdate c θ g mo).2.t) :=
  Proofs.OptimStepTie.adam_step_eq c hd θ g mo

theorem src_adamw_step_is_model (c : AdamCfg α) (hd : c.decoupled = true) (θ g : α) (mo : Moments α) :
    Synap.Gen.adamw_step (beta1 := c.beta1) (beta2 := c.beta2) (epsilon := c.eps) (lr := c.lr) (weight_decay := c.weightDecay)
      (maximize := c.maximize) θ g mo.m1 mo.m2 mo.t
    = ((adamUpdate c θ g mo).1, (adamUpdate c θ g mo).2.m1, (adamUpdate c θ g mo).2.m2, (adamUpdate c θ g mo).2.t) :=
  Proofs.OptimStepTie.adamw_step_eq c hd θ g mo

/-- **the source's SGD step is the documented step** (momentum in use; the two `!= 0` tests evaluated on the values they test) -/
theorem src_sgd_step_is_published_rule [DecidableEq α] (lr μ τ wd : α) (nesterov maximize : Bool) (hμ : μ ≠ 0) (θ g : α) (buf : Option α) :
    Synap.Gen.sgd_step (dampening := τ) (lr := lr) (momentum := μ) (weight_decay := wd) (maximize := maximize)
      (momentum_ne_0 := decide (μ ≠ 0)) (nesterov := nesterov) (weight_decay_ne_0 := decide (wd ≠ 0)) θ g buf
    = sgdSpecStep lr μ τ wd nesterov maximize (θ, buf) g :=
  let c : SGDCfg α := ⟨lr, μ, τ, wd, decide (wd ≠ 0), decide (μ ≠ 0), nesterov, maximize⟩
  (src_sgd_step_is_model c θ g buf).trans (congrFun (congrFun (sgdUpdate_eq_spec c
    ⟨fun h => not_not.mp (of_decide_eq_false h), fun h => not_not.mp (of_decide_eq_false h)⟩
    (decide_eq_true hμ)) (θ, buf)) g)

/-- **the source's Adam / AdamW steps are the documented step** (`adamSpecStep`), the `!= 0` test evaluated on the value it tests -/
theorem src_adam_step_is_published_rule [DecidableEq α] (lr β1 β2 eps wd : α) (maximize : Bool) (θ g : α) (mo : Moments α) :
    Synap.Gen.adam_step (beta1 := β1) (beta2 := β2) (epsilon := eps) (lr := lr) (weight_decay := wd) (maximize := maximize)
      (weight_decay_ne_0 := decide (wd ≠ 0)) θ g mo.m1 mo.m2 mo.t
    = (let r := adamSpecStep ⟨lr, β1, β2, eps, wd, decide (wd ≠ 0), maximize, false⟩ (θ, mo) g; (r.1, r.2.m1, r.2.m2, r.2.t)) :=
  let c : AdamCfg α := ⟨lr, β1, β2, eps, wd, decide (wd ≠ 0), maximize, false⟩
  (src_adam_step_is_model c rfl θ g mo).trans (congrArg (fun r : α × Moments α => (r.1, r.2.m1, r.2.m2, r.2.t))
    (congrFun (congrFun (adamUpdate_eq_spec c fun h => not_not.mp (of_decide_eq_false h)) (θ, mo)) g))

theorem src_adamw_step_is_published_rule (lr β1 β2 eps wd : α) (maximize : Bool) (θ g : α) (mo : Moments α) :
    Synap.Gen.adamw_step (beta1 := β1) (beta2 := β2) (epsilon := eps) (lr := lr) (weight_decay := wd) (maximize := maximize)
      θ g mo.m1 mo.m2 mo.t
    = (let r := adamSpecStep ⟨lr, β1, β2, eps, wd, true, maximize, true⟩ (θ, mo) g; (r.1, r.2.m1, r.2.m2, r.2.t)) :=
  let c : AdamCfg α := ⟨lr, β1, β2, eps, wd, true, maximize, true⟩
  (src_adamw_step_is_model c rfl θ g mo).trans (congrArg (fun r : α × Moments α => (r.1, r.2.m1, r.2.m2, r.2.t))
    (congrFun (congrFun (adamUpdate_eq_spec c nofun) (θ, mo)) g))

end Props.C08
