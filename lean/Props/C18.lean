import Props.C18Logic
import SynapModel.Data
/-!
# C18 — Dataset split, batching and one-hot encoding lose or misalign no sample

Statements about `Synap.Data` (the model of synapgrad/nn/utils/data.py) for every dataset length,
every pair of floor-rule sizes, every shuffle (any list of positions), every batch size.
-/
namespace Props.C18
open Synap.Data

/-- **Partition.** test ++ val ++ train is *literally* the (possibly shuffled) index list: every
    sample is in exactly one part and nothing is lost or duplicated. -/
theorem split_concat (idx : List Nat) (k : Nat) (kv : Option (Nat → Nat)) :
    let s := splitIndices idx k kv
    s.test ++ (s.val.getD []) ++ s.train = idx := by
  cases kv with
  | none => simp [splitIndices]
  | some f => simp only [splitIndices, Option.getD_some, List.append_assoc, List.take_append_drop]

/-- **Floor-rule sizes** with Python's saturating slices. -/
theorem split_sizes (idx : List Nat) (k : Nat) (kv : Option (Nat → Nat)) :
    let s := splitIndices idx k kv
    s.test.length = min k idx.length ∧
    (∀ f, kv = some f → (s.val.getD []).length = min (f (idx.length - k)) (idx.length - k)) ∧
    (kv = none → s.val = none) ∧
    s.train.length + s.test.length + (s.val.getD []).length = idx.length := by
  intro s
  have hsum : s.train.length + s.test.length + (s.val.getD []).length = idx.length := by
    rw [← congrArg List.length (split_concat idx k kv), List.length_append, List.length_append]
    exact (Nat.add_assoc _ _ _).trans (Nat.add_comm _ _)
  cases kv with
  | none => exact ⟨List.length_take, (fun f h => by cases h), fun _ => rfl, hsum⟩
  | some f =>
    refine ⟨List.length_take, ?_, (fun h => by cases h), hsum⟩
    intro g hg; cases hg
    exact List.length_take.trans (by rw [List.length_drop])

/-- **Shuffle.** If the index list is a permutation of `0..n-1` then so is the concatenation of
    the parts; with `shuffle = False` (`idx = range n`) the test part is the initial run `0 … min k n - 1`
    (`split_order`; for the other parts only `split_concat` is stated). -/
theorem split_perm (n : Nat) (idx : List Nat) (h : idx.Perm (List.range n)) (k : Nat)
    (kv : Option (Nat → Nat)) :
    let s := splitIndices idx k kv
    (s.test ++ (s.val.getD []) ++ s.train).Perm (List.range n) := by
  intro s
  have := split_concat idx k kv
  rw [this]; exact h

theorem split_order (n k : Nat) (kv : Option (Nat → Nat)) :
    let s := splitIndices (List.range n) k kv
    s.test = List.range (min k n) := by
  cases kv <;> simp [splitIndices]

/-- **floor(n / batch_size) batches.** -/
theorem loader_len_floor (nx ny b : Nat) (hb : 0 < b) :
    ∃ bs, loaderBatches nx ny b = some bs ∧ bs.length = ny / b := by
  have : b ≠ 0 := Nat.pos_iff_ne_zero.mp hb
  simp [loaderBatches, loaderLen, this]

/-- **Exactly `batch_size` consecutive, aligned samples** in every batch the loader yields. -/
theorem loader_batch_exact (n b i : Nat) (hi : i < n / b) :
    loaderItem n n b i = (List.range' (i * b) b, List.range' (i * b) b) := by
  have h1 : i * b + b ≤ n := Nat.succ_mul i b ▸ Nat.le_trans (Nat.mul_le_mul_right _ hi) (Nat.div_mul_le_self n b)
  simp only [loaderItem, List.range_eq_range', List.drop_range', List.take_range'_of_length_ge (Nat.le_sub_of_add_le' h1),
    Nat.mul_one, Nat.zero_add]

/-- the batches cover the first `floor(n/b)·b` samples, in order, each once -/
theorem loader_covers_prefix (n b : Nat) (hb : 0 < b) :
    ∃ bs, loaderBatches n n b = some bs ∧
      (bs.map (·.2)).flatten = List.range ((n / b) * b) := by
  have hb0 : b ≠ 0 := Nat.pos_iff_ne_zero.mp hb
  refine ⟨(List.range (n / b)).map (loaderItem n n b), by rw [loaderBatches, loaderLen, if_neg hb0]; rfl, ?_⟩
  have key : ∀ m, m ≤ n / b →
      (((List.range m).map (loaderItem n n b)).map (·.2)).flatten = List.range (m * b) := by
    intro m
    induction m with
    | zero => intro _; rw [Nat.zero_mul]; rfl
    | succ m ih =>
      intro hm
      -- the first `m` batches are `range (m * b)` by `ih`, batch `m` is `range' (m * b) b` (`loader_batch_exact`), and
      -- `range' 0 (m * b) ++ range' (m * b) b = range' 0 (m * b + b)` is `range'_append_1` from right to left
      rw [List.range_succ, List.map_append, List.map_append, List.flatten_append, ih (Nat.le_of_succ_le hm), Nat.succ_mul,
        List.range_eq_range', List.range_eq_range', ← List.range'_append_1, List.map_cons, loader_batch_exact n b m hm]
      simp
  exact key (n / b) (Nat.le_refl _)

/-- **One-hot.** Every row has one entry per distinct label and a single 1, at the position of
    the label in the sorted list of distinct labels. -/
theorem oneHot_row (ys : List Int) (r : List Nat) (hr : r ∈ oneHot ys) :
    r.length = (uniques ys).length ∧
    ∃ y ∈ ys, ∀ k, k < r.length → r[k]? = some (if (uniques ys).idxOf y = k then 1 else 0) := by
  obtain ⟨y, hy, rfl⟩ := List.mem_map.mp hr
  rw [List.length_map, List.length_range]
  refine ⟨rfl, y, hy, fun k hk => ?_⟩
  rw [List.getElem?_map, List.getElem?_range hk]
  rfl

theorem mem_insertUniq (y z : Int) (l : List Int) : z ∈ insertUniq y l ↔ z = y ∨ z ∈ l := by
  induction l with
  | nil => exact List.mem_singleton.trans (or_iff_left List.not_mem_nil).symm
  | cons x xs ih =>
    unfold insertUniq
    split
    · exact List.mem_cons
    · split
      · next h => exact ⟨Or.inr, fun hz => hz.elim (fun e => e ▸ h ▸ List.mem_cons_self) id⟩
      · rw [List.mem_cons, ih, List.mem_cons, or_left_comm]

theorem mem_uniques (ys : List Int) (y : Int) : y ∈ uniques ys ↔ y ∈ ys := by
  induction ys with
  | nil => simp [uniques]
  | cons a t ih =>
    simp only [uniques, List.foldr_cons] at ih ⊢
    rw [mem_insertUniq, ih]; simp

theorem oneHot_position_valid (ys : List Int) (y : Int) (hy : y ∈ ys) :
    (uniques ys).idxOf y < (uniques ys).length :=
  List.idxOf_lt_length_iff.mpr ((mem_uniques ys y).mpr hy)

theorem insertUniq_sorted (y : Int) (l : List Int) (h : l.Pairwise (· < ·)) :
    (insertUniq y l).Pairwise (· < ·) := by
  induction l with
  | nil => exact List.pairwise_singleton _ _
  | cons x xs ih =>
    unfold insertUniq
    obtain ⟨h1, h2⟩ := List.pairwise_cons.mp h
    split
    · next hlt =>
      refine List.pairwise_cons.mpr ⟨fun z hz => ?_, h⟩
      rcases List.mem_cons.mp hz with rfl | hz
      · exact hlt
      · exact Int.lt_trans hlt (h1 z hz)
    · split
      · exact h
      · next hnlt hne =>
        refine List.pairwise_cons.mpr ⟨fun z hz => ?_, ih h2⟩
        rcases (mem_insertUniq y z xs).mp hz with rfl | hz
        · exact Int.lt_iff_le_and_ne.mpr ⟨Int.not_lt.mp hnlt, Ne.symm hne⟩
        · exact h1 z hz

/-- `uniques` is strictly increasing: sorted, without duplicates (the column order of one-hot) -/
theorem uniques_sorted (ys : List Int) : (uniques ys).Pairwise (· < ·) := by
  induction ys with
  | nil => simp [uniques]
  | cons a t ih => exact insertUniq_sorted a _ ih

/-! ### labels of any ordered type: only their ORDER matters

`oneHot` is stated over integer labels and compares them exactly.  Labels of another type (floats, strings, booleans,
integers of any width) reach it through a strictly increasing injection into the integers — the check uses the
sign-magnitude bit pattern of a float and the positional value of a string's code points.  This is harmless: re-labelling
through ANY strictly increasing map leaves every one-hot row unchanged, so the rows are a function of the order type of the
label list alone (two labels get the same column iff they are equal — however close they are — and columns follow `<`). -/

theorem strictMono_lt_iff (f : Int → Int) (hf : ∀ a b, a < b → f a < f b) (a b : Int) : f a < f b ↔ a < b := by
  constructor
  · intro h
    rcases Int.lt_trichotomy a b with h' | h' | h'
    · exact h'
    · subst h'; omega
    · have := hf b a h'; omega
  · exact hf a b

theorem strictMono_eq_iff (f : Int → Int) (hf : ∀ a b, a < b → f a < f b) (a b : Int) : f a = f b ↔ a = b := by
  constructor
  · intro h
    rcases Int.lt_trichotomy a b with h' | h' | h'
    · have := hf a b h'; omega
    · exact h'
    · have := hf b a h'; omega
  · intro h; subst h; rfl

theorem insertUniq_map (f : Int → Int) (hf : ∀ a b, a < b → f a < f b) (y : Int) (l : List Int) :
    insertUniq (f y) (l.map f) = (insertUniq y l).map f := by
  induction l with
  | nil => simp [insertUniq]
  | cons x xs ih =>
    simp only [List.map_cons, insertUniq]
    by_cases h1 : y < x
    · simp [h1, (strictMono_lt_iff f hf y x).2 h1]
    · have h1' : ¬ f y < f x := fun h => h1 ((strictMono_lt_iff f hf y x).1 h)
      by_cases h2 : y = x
      · subst h2; simp
      · have h2' : ¬ f y = f x := fun h => h2 ((strictMono_eq_iff f hf y x).1 h)
        simp [h1, h1', h2, h2', ih]

theorem uniques_map (f : Int → Int) (hf : ∀ a b, a < b → f a < f b) (ys : List Int) :
    uniques (ys.map f) = (uniques ys).map f := by
  induction ys with
  | nil => simp [uniques]
  | cons a t ih =>
    simp only [uniques, List.map_cons, List.foldr_cons] at ih ⊢
    rw [ih, insertUniq_map f hf]

theorem idxOf_map_strictMono (f : Int → Int) (hf : ∀ a b, a < b → f a < f b) (y : Int) (l : List Int) :
    (l.map f).idxOf (f y) = l.idxOf y := by
  induction l with
  | nil => simp
  | cons x xs ih =>
    simp only [List.map_cons, List.idxOf_cons, ih]
    by_cases h : x = y
    · subst h; simp
    · have h' : ¬ f x = f y := fun e => h ((strictMono_eq_iff f hf x y).1 e)
      have b1 : (f x == f y) = false := by simpa using h'
      have b2 : (x == y) = false := by simpa using h
      rw [b1, b2]

/-- **One-hot depends only on the order of the labels**: re-labelling through any strictly increasing map changes no row. -/
theorem oneHot_map_strictMono (f : Int → Int) (hf : ∀ a b, a < b → f a < f b) (ys : List Int) :
    oneHot (ys.map f) = oneHot ys := by
  simp only [oneHot, uniques_map f hf, List.length_map, List.map_map]
  apply List.map_congr_left
  intro y _
  simp only [Function.comp, idxOf_map_strictMono f hf]

/-- distinct labels get distinct columns, however close they are (that the columns follow `<` is `uniques_sorted`) -/
theorem oneHot_distinct_columns (ys : List Int) (a b : Int) (ha : a ∈ ys) (hb : b ∈ ys) (hab : a ≠ b) :
    (uniques ys).idxOf a ≠ (uniques ys).idxOf b := by
  intro h
  have ia := oneHot_position_valid ys a ha
  have ib := oneHot_position_valid ys b hb
  exact hab (by rw [← List.getElem_idxOf ia, ← List.getElem_idxOf ib]; simp only [h])

example : oneHot ([100001, 100000, 100002].map (fun x => 2 * x + 7)) = oneHot [1, 0, 2] := by decide +kernel

example : (splitIndices [3,1,0,2,4] 2 (some (fun m => m / 2))) = ⟨[2,4], [3,1], some [0]⟩ := by decide +kernel
example : loaderBatches 7 7 3 = some [([0,1,2],[0,1,2]), ([3,4,5],[3,4,5])] := by decide +kernel
example : oneHot [3, -1, 3] = [[0,1],[1,0],[0,1]] := by decide +kernel

theorem next_eq (l : Loader) (hb : 0 < l.b) :
    l.next = some (if l.step < l.ny / l.b then (some (loaderItem l.nx l.ny l.b l.step), { l with step := l.step + 1 })
      else (none, l)) := by
  simp only [Loader.next, loaderLen, Nat.pos_iff_ne_zero.mp hb, if_false, Option.map_some]

theorem consume_eq (k : Nat) (l : Loader) (hb : 0 < l.b) :
    l.consume k = some ((((List.range (l.ny / l.b)).drop l.step).take k).map (loaderItem l.nx l.ny l.b),
      { l with step := l.step + (((List.range (l.ny / l.b)).drop l.step).take k).length }) := by
  induction k generalizing l with
  | zero => rfl
  | succ k ih =>
    rw [Loader.consume, next_eq l hb]
    by_cases hlt : l.step < l.ny / l.b
    · rw [if_pos hlt, List.drop_eq_getElem_cons (List.length_range.symm ▸ hlt), List.getElem_range]
      simp only [ih { l with step := l.step + 1 } hb, Option.map_some, List.take_succ_cons, List.map_cons, List.length_cons,
        Nat.add_assoc, Nat.add_comm 1]
    · rw [if_neg hlt, List.drop_eq_nil_of_le (List.length_range.symm ▸ Nat.le_of_not_lt hlt)]
      rfl

/-- **Re-iterable from the start.** Whatever the cursor was left at by earlier (complete or abandoned) loops,
    a new `for` loop sees the batches `0, 1, 2, …` — exactly the first `k` of the full pass when it is
    abandoned after `k` items, the full pass otherwise — and leaves the loader with the same data. -/
theorem loader_reiterable (l : Loader) (k : Nat) (hb : 0 < l.b) :
    ∃ l', l.forLoop k = some (((List.range (l.ny / l.b)).map (loaderItem l.nx l.ny l.b)).take k, l')
      ∧ l'.nx = l.nx ∧ l'.ny = l.ny ∧ l'.b = l.b := by
  have h := consume_eq k l.iter hb
  rw [List.map_take] at h
  exact ⟨_, h, rfl, rfl, rfl⟩

/-- hence every loop of any program of loops over one loader object starts from batch 0 -/
theorem loops_all_from_start (ks : List Nat) (l : Loader) (hb : 0 < l.b) :
    l.loops ks = some (ks.map (fun k => ((List.range (l.ny / l.b)).map (loaderItem l.nx l.ny l.b)).take k)) := by
  induction ks generalizing l with
  | nil => rfl
  | cons k ks ih =>
    obtain ⟨l', h1, h2, h3, h4⟩ := loader_reiterable l k hb
    simp only [Loader.loops, h1]
    rw [ih l' (h4 ▸ hb), h2, h3, h4]
    rfl

example : (Loader.loops [1, 5, 0, 2] { nx := 7, ny := 7, b := 3, step := 0 })
    = some [[([0,1,2],[0,1,2])], [([0,1,2],[0,1,2]), ([3,4,5],[3,4,5])], [], [([0,1,2],[0,1,2]), ([3,4,5],[3,4,5])]] := by decide +kernel

end Props.C18
