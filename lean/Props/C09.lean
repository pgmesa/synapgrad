import Props.C09Formulas
import Mathlib.Analysis.Complex.ExponentialBounds
/-!
# C09 — Stability-critical ops stay finite and accurate for large-magnitude inputs (logical core)

What a theorem over ℝ can carry: (a) the formula the kernel evaluates equals the mathematical
definition *exactly* (the max-shift and the log-sum-exp rearrangements change nothing), and
(b) every intermediate quantity the kernel forms lies in a range far from the float32 overflow
threshold, or is an overflow that is provably annihilated afterwards.  Rounding-error
propagation and IEEE overflow semantics themselves are observed by the check (the model is
executed at Float32), not proved.
-/
namespace Props.C09
open Synap Synap.Kernels Proofs.Core Proofs.Calc

private theorem sum_exp_shift (xs : List ℝ) (m : ℝ) :
    (xs.map (fun t => Real.exp (t - m))).sum = (xs.map Real.exp).sum / Real.exp m := by
  simp only [Real.exp_sub, div_eq_mul_inv, List.sum_map_mul_right]

private theorem le_sum_map_of_mem (xs : List ℝ) (f : ℝ → ℝ) (hf : ∀ x ∈ xs, 0 ≤ f x) (m : ℝ)
    (hmem : m ∈ xs) : f m ≤ (xs.map f).sum :=
  List.single_le_sum (List.forall_mem_map.2 hf) _ (List.mem_map_of_mem hmem)

private theorem shifted_sum_bounds (xs : List ℝ) (m : ℝ) (hm : ∀ x ∈ xs, x ≤ m) (hmem : m ∈ xs) :
    1 ≤ (xs.map (fun x => Real.exp (x - m))).sum ∧ (xs.map (fun x => Real.exp (x - m))).sum ≤ xs.length := by
  constructor
  · have h := le_sum_map_of_mem xs (fun x => Real.exp (x - m)) (fun x _ => (Real.exp_pos _).le) m hmem
    simpa using h
  · have h := List.sum_le_card_nsmul (xs.map fun x => Real.exp (x - m)) 1
      (List.forall_mem_map.2 fun x hx => Real.exp_le_one_iff.mpr (sub_nonpos.mpr (hm x hx)))
    rwa [List.length_map, nsmul_one] at h

private theorem log_shifted_sum (xs : List ℝ) (hne : xs ≠ []) (m : ℝ) :
    m + Real.log ((xs.map (fun t => Real.exp (t - m))).sum) = Real.log ((xs.map Real.exp).sum) := by
  rw [sum_exp_shift, Real.log_div (List.sum_pos _ (List.forall_mem_map.2 fun x _ => Real.exp_pos x)
    (mt List.map_eq_nil_iff.1 hne)).ne' (Real.exp_pos m).ne', Real.log_exp]
  ring

/-- **float32 really overflows at the magnitudes of the property**: `e^100 > 3.5·10^38 > FLT_MAX`,
    so an unshifted `exp` of a logit of 100 is `inf` — the shifts below are necessary. -/
theorem exp_100_overflows_f32 : (3.5e38 : ℝ) < Real.exp 100 := by
  -- `e > 2.5` is enough: `2.5 ^ 100 ≈ 6.2·10^39`
  have h1 : (2.5 : ℝ) < Real.exp 1 := lt_trans (by norm_num) Real.exp_one_gt_d9
  have h2 : Real.exp 100 = Real.exp 1 ^ 100 := by
    rw [← Real.exp_nat_mul]; norm_num
  rw [h2]
  exact lt_trans (by norm_num) (pow_lt_pow_left₀ h1 (by norm_num) (by norm_num))

/-- **softmax: after the max-shift every exponent is ≤ 0**, so each `exp` lies in `(0, 1]`, the sum
    lies in `[1, n]`, and every output lies in `(0, 1]` — whatever the magnitude of the logits. -/
theorem softmax_shift_range (xs : List ℝ) (hne : xs ≠ []) (m : ℝ) (hm : ∀ x ∈ xs, x ≤ m) (hmem : m ∈ xs) :
    (∀ x ∈ xs, x - m ≤ 0 ∧ 0 < Real.exp (x - m) ∧ Real.exp (x - m) ≤ 1) ∧
    1 ≤ (xs.map (fun x => Real.exp (x - m))).sum ∧ (xs.map (fun x => Real.exp (x - m))).sum ≤ xs.length ∧
    (∀ x ∈ xs, 0 < Real.exp (x - m) / (xs.map (fun t => Real.exp (t - m))).sum ∧
               Real.exp (x - m) / (xs.map (fun t => Real.exp (t - m))).sum ≤ 1) := by
  obtain ⟨hlo, hhi⟩ := shifted_sum_bounds xs m hm hmem
  have hpos : 0 < (xs.map (fun x => Real.exp (x - m))).sum := lt_of_lt_of_le one_pos hlo
  refine ⟨fun x hx => ⟨sub_nonpos.mpr (hm x hx), Real.exp_pos _,
    Real.exp_le_one_iff.mpr (sub_nonpos.mpr (hm x hx))⟩, hlo, hhi, fun x hx => ⟨?_, ?_⟩⟩
  · exact div_pos (Real.exp_pos _) hpos
  · rw [div_le_one hpos]
    exact le_sum_map_of_mem xs (fun t => Real.exp (t - m)) (fun t _ => (Real.exp_pos _).le) x hx

/-- **the shift changes nothing**: `exp(x−m)/Σ exp(t−m) = exp(x)/Σ exp(t)` for any `m` -/
theorem softmax_shift_exact (xs : List ℝ) (hne : xs ≠ []) (m x : ℝ) :
    Real.exp (x - m) / (xs.map (fun t => Real.exp (t - m))).sum = Real.exp x / (xs.map Real.exp).sum := by
  rw [sum_exp_shift, Real.exp_sub]
  exact div_div_div_cancel_right₀ (Real.exp_ne_zero m) _ _

/-- **log_softmax as computed is exactly `x − log Σ exp(t)`**, and its intermediates are tame:
    the shifted sum lies in `[1, n]`, so its logarithm lies in `[0, log n]`. -/
theorem log_softmax_exact (xs : List ℝ) (hne : xs ≠ []) (m x : ℝ) (hm : ∀ t ∈ xs, t ≤ m) (hmem : m ∈ xs) :
    x - (m + Real.log ((xs.map (fun t => Real.exp (t - m))).sum)) = x - Real.log ((xs.map Real.exp).sum) ∧
    0 ≤ Real.log ((xs.map (fun t => Real.exp (t - m))).sum) ∧
    Real.log ((xs.map (fun t => Real.exp (t - m))).sum) ≤ Real.log xs.length := by
  obtain ⟨hlo, hhi⟩ := shifted_sum_bounds xs m hm hmem
  refine ⟨by rw [log_shifted_sum xs hne m], Real.log_nonneg hlo, ?_⟩
  exact Real.log_le_log (lt_of_lt_of_le one_pos hlo) hhi

/-- the backward of log_softmax, `g − exp(ls)·Σg`, recovers softmax as `exp(ls)`, which lies in `(0, 1]` as `ls ≤ 0`:
    no division by a probability -/
theorem log_softmax_backward_bounded (ls : ℝ) (hls : ls ≤ 0) : 0 < Real.exp ls ∧ Real.exp ls ≤ 1 :=
  ⟨Real.exp_pos _, Real.exp_le_one_iff.mpr hls⟩

/-- **sigmoid**: the value lies strictly between 0 and 1; for `x ≥ 0` the intermediate `exp(−x)` is
    in `(0, 1]`; for `x < 0` it may be astronomically large, but `1/(1 + E) ≤ 1/E`, so an overflow of
    `E` to `+∞` is annihilated to the correctly rounded value 0 (and never to NaN). -/
theorem sigmoid_range (x : ℝ) :
    0 < 1 / (1 + Real.exp (-x)) ∧ 1 / (1 + Real.exp (-x)) < 1 ∧
    (0 ≤ x → Real.exp (-x) ≤ 1) ∧ (1 / (1 + Real.exp (-x)) ≤ Real.exp x) := by
  refine ⟨?_, ?_, fun hx => Real.exp_le_one_iff.mpr (neg_nonpos.2 hx), ?_⟩
  · rw [one_div_one_add_exp_neg]; exact Real.sigmoid_pos x
  · rw [one_div_one_add_exp_neg]; exact Real.sigmoid_lt_one x
  · rw [one_div, ← inv_inv (Real.exp x), ← Real.exp_neg]
    exact inv_anti₀ (Real.exp_pos _) (le_add_of_nonneg_left zero_le_one)

/-- sigmoid backward `g·s·(1−s)` multiplies numbers in `[0,1]` -/
theorem sigmoid_backward_range (x : ℝ) :
    0 < (1 / (1 + Real.exp (-x))) * (1 - 1 / (1 + Real.exp (-x))) ∧
    (1 / (1 + Real.exp (-x))) * (1 - 1 / (1 + Real.exp (-x))) ≤ 1 / 4 := by
  rw [one_div_one_add_exp_neg]
  refine ⟨mul_pos (Real.sigmoid_pos x) (sub_pos.2 (Real.sigmoid_lt_one x)), ?_⟩
  -- `s (1 − s) = 1/4 − (s − 1/2)²`
  rw [show Real.sigmoid x * (1 - Real.sigmoid x) = 1 / 4 - (Real.sigmoid x - 1 / 2) ^ 2 by ring]
  exact sub_le_self _ (sq_nonneg _)

/-- tanh and its backward factor `1 − tanh²` stay in `[-1, 1]` / `[0, 1]` -/
theorem tanh_range (x : ℝ) : -1 < Real.tanh x ∧ Real.tanh x < 1 ∧ 0 < 1 - Real.tanh x ^ 2 ∧ 1 - Real.tanh x ^ 2 ≤ 1 :=
  ⟨Real.neg_one_lt_tanh x, Real.tanh_lt_one x, sub_pos.2 (Real.tanh_sq_lt_one x), sub_le_self _ (sq_nonneg _)⟩

/-- **selu backward** evaluates `exp(min(x, 0))`, which is in `(0, 1]` for every `x` (the unguarded
    `exp(x)·(x ≤ 0)` would be `∞·0` for large `x`). -/
theorem selu_backward_bounded (x : ℝ) : 0 < Real.exp (min x 0) ∧ Real.exp (min x 0) ≤ 1 :=
  ⟨Real.exp_pos _, Real.exp_le_one_iff.mpr (min_le_right _ _)⟩

/-- **BCE-with-logits**: with the shift `tn = max(−x, 0)` both exponents `−tn` and `−x−tn` are ≤ 0
    (so both `exp` are in `(0,1]` and their sum in `[1,2]`), and the value is exactly
    `(1−y)·x + log(1 + exp(−x))`. -/
theorem bce_logits_shift_nonpos (x y : ℝ) :
    let tn := max (-x) 0;
    (-tn ≤ 0) ∧ -x - tn ≤ 0 ∧ 1 ≤ Real.exp (-tn) + Real.exp (-x - tn) ∧ Real.exp (-tn) + Real.exp (-x - tn) ≤ 2 ∧
    (1 - y) * x + tn + Real.log (Real.exp (-tn) + Real.exp (-x - tn)) = (1 - y) * x + Real.log (1 + Real.exp (-x)) := by
  intro tn
  have htn0 : 0 ≤ tn := le_max_right _ _
  have htnx : -x ≤ tn := le_max_left _ _
  have e1 : Real.exp (-tn) ≤ 1 := Real.exp_le_one_iff.mpr (neg_nonpos.2 htn0)
  have e2 : Real.exp (-x - tn) ≤ 1 := Real.exp_le_one_iff.mpr (sub_nonpos.2 htnx)
  refine ⟨neg_nonpos.2 htn0, sub_nonpos.2 htnx, ?_, (add_le_add e1 e2).trans_eq one_add_one_eq_two,
    Proofs.NL.bce_logits_scalar_eq tn x y⟩
  -- one of the two exponents is exactly `0`
  rcases max_choice (-x) 0 with h | h
  · have : -x - tn = 0 := by rw [show tn = -x from h]; exact sub_self _
    rw [this, Real.exp_zero]
    exact le_add_of_nonneg_left (Real.exp_pos _).le
  · have : -tn = 0 := by rw [show tn = 0 from h, neg_zero]
    rw [this, Real.exp_zero]
    exact le_add_of_nonneg_right (Real.exp_pos _).le

/-- **cross-entropy through log_softmax is exact**: `−(x_label − log Σ exp)`; no probability is ever
    formed, so nothing underflows into a clipped logarithm. -/
theorem cross_entropy_exact (xs : List ℝ) (hne : xs ≠ []) (m xl : ℝ) (hm : ∀ t ∈ xs, t ≤ m) (hmem : m ∈ xs) (hl : xl ∈ xs) :
    -(xl - (m + Real.log ((xs.map (fun t => Real.exp (t - m))).sum))) = Real.log ((xs.map Real.exp).sum) - xl ∧
    0 ≤ Real.log ((xs.map Real.exp).sum) - xl := by
  have hlog := log_shifted_sum xs hne m
  refine ⟨by rw [hlog]; ring, ?_⟩
  have h1 : Real.exp xl ≤ (xs.map Real.exp).sum :=
    le_sum_map_of_mem xs Real.exp (fun t _ => (Real.exp_pos t).le) xl hl
  have h2 := Real.log_le_log (Real.exp_pos xl) h1
  rw [Real.log_exp] at h2
  exact sub_nonneg.2 h2

/-! ### the model's softmax kernel, instantiated at ℝ, evaluates the shifted quotient

The theorems above are about a list `xs` and a number `m`; that the fibre maximum of the model meets `hm` / `hmem` is
`Proofs.SpecNN.fibreMax_is_max`, and the other kernels in these forms are the C06 statements of `Proofs/SpecNNLoss.lean`
and the formula ties of `Props/C09Formulas.lean`. -/

/-- `softmaxForward` at ℝ: every entry is `exp(x − M)/Σ exp(· − M)` with `M` the maximum of its fibre,
    hence (by `softmax_shift_exact`) the mathematical softmax.  On a 0-d operand with `dim` `0` / `−1` (the only
    other accepted call) the fibre is the element itself: `M = x`, the result is `exp(x − x)/exp(x − x)`. -/
theorem softmax_model_formula (a y : NDArray ℝ) (axis : Int) (h : softmaxForward a axis = some y) :
    (a.shape = [] ∧ (axis = 0 ∨ axis = -1) ∧
      y = ⟨[], [Real.exp (a.get [] - a.get []) / Real.exp (a.get [] - a.get [])]⟩) ∨
    ∃ ax, normAxis a.shape.length axis = some ax ∧ y.shape = a.shape ∧
      ∀ i, validIdx a.shape i →
        y.get i = Real.exp (a.get i - fibreMax a ax i) / fibreSum (fun j => Real.exp (a.get j - fibreMax a ax j)) a.shape ax i := by
  unfold softmaxForward at h
  by_cases h0 : zeroDimAxis a.shape axis
  · rw [if_pos h0] at h
    exact Or.inl ⟨h0.1, h0.2, (Option.some.inj h).symm⟩
  rw [if_neg h0] at h
  obtain ⟨ax, hax, h⟩ := Option.bind_eq_some_iff.1 h
  obtain rfl := Option.some.inj (Option.ite_none_left_eq_some.1 h).2
  exact Or.inr ⟨ax, hax, rfl, fun i hi => get_ofFn _ _ i hi⟩

/-- non-vacuity of the 0-d case -/
example : softmaxForward (⟨[], [3]⟩ : NDArray ℝ) (-1) = some ⟨[], [Real.exp (3 - 3) / Real.exp (3 - 3)]⟩ := rfl

end Props.C09
