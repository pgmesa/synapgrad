import Proofs.EngineLogicTraversal
import Proofs.EngineLogicFlags
/-!
# C17 — the decision logic of `tensor.py`, read from the source on this run, is the logic of the engine model

`Synap.Gen.Engine.*` (file `SynapModel/Generated/EngineLogic.lean`) is regenerated from `/repo/synapgrad/tensor.py` by
`harness/engine_logic.py` every time a check runs.  The statements (with their proofs) are in `Proofs/EngineLogicTraversal.lean` and `EngineLogicFlags.lean` (namespace `Proofs.EngineLogicTie`);
they are re-exported here because they belong to this property: the traversal is the explicit-stack loop (no recursion) whose turn consumes one child edge or pops one node;
and, for untracked results, the creation rule of `Tensor.__init__` and construction / entry / exit of the grad-mode contexts.
-/
namespace Props.C17

/-- the loop keeps (node, iterator) frames and resumes the iterator: one turn per child edge plus one per node -/
theorem src_explicit_stack_skeleton : type_of% @Proofs.EngineLogicTie.traversal_skeleton_is_modelled := @Proofs.EngineLogicTie.traversal_skeleton_is_modelled

/-- one turn of the machine, with the source push condition -/
theorem src_explicit_stack_step : type_of% @Proofs.EngineLogicTie.stackStep_uses_src := @Proofs.EngineLogicTie.stackStep_uses_src

/-! The second half of the property (results computed while gradients are not tracked keep no history) rests on the creation rule and
on the grad-mode contexts doing what the model says: a `no_grad` object re-records the mode in force when it is *entered* and restores
exactly that on exit, however it was constructed and however often it is re-used. -/

/-- what `Tensor.__init__` keeps of the operands, and the flag of the result, as read from the source -/
theorem src_creation_rule_is_model : type_of% @Proofs.EngineLogicTie.mkTensor_uses_src := @Proofs.EngineLogicTie.mkTensor_uses_src

/-- constructing a context object -/
theorem src_ctx_new_is_model : type_of% @Proofs.EngineLogicTie.ctxNew_uses_src := @Proofs.EngineLogicTie.ctxNew_uses_src

/-- entering it records the mode in force at entry -/
theorem src_ctx_enter_is_model : type_of% @Proofs.EngineLogicTie.ctxEnter_uses_src := @Proofs.EngineLogicTie.ctxEnter_uses_src

/-- leaving it (normally or by an exception) restores the recorded mode -/
theorem src_ctx_exit_is_model : type_of% @Proofs.EngineLogicTie.ctxExit_uses_src := @Proofs.EngineLogicTie.ctxExit_uses_src

end Props.C17
