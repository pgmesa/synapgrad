import SynapModel.Train
import Proofs.TrainMetrics
import Mathlib.Algebra.Order.Field.Rat
/-!
# C20 — Trainer.fit performs one optimisation step per batch in the right mode

First the events: statements about `Synap.Train.fit`, the event-trace model of `Trainer.fit`
(synapgrad/nn/utils/train.py), for *every* number of epochs and batches, with and without a
validation loader and callbacks, started in any training flag / gradient mode.  Then the values: the `Evaluator`
as a state machine and the contents of the history `fit` returns (`SynapModel/TrainMetrics.lean`).
-/
namespace Props.C20
open Synap.Train

/-- the four events of one optimisation step, in the mode `g` the caller left the engine in -/
def batchBlock (g : Bool) : List Ev := [.forward true g, .zeroGrad, .backward, .step]

def epochBlock (c : Cfg) (g : Bool) : List Ev :=
  [.setTrain] ++ (if c.cbTrain then [.cbTrain] else []) ++ [.setTrain]
    ++ (List.replicate c.nTrain (batchBlock g)).flatten
    ++ (match c.nVal with
        | none => []
        | some nv => (if c.cbVal then [.cbVal] else []) ++ [.setEval, .noGradEnter]
            ++ List.replicate nv (.forward false false) ++ [.noGradExit])

/-- the body may look at the two flags: it leaves them alone, so throughout the loop they are those of `s` -/
theorem foldl_emits (n : Nat) (f : St → St) (blk : List Ev) (s : St)
    (hf : ∀ t : St, t.training = s.training → t.gradOn = s.gradOn → f t = { t with trace := t.trace ++ blk }) :
    (List.range n).foldl (fun s _ => f s) s = { s with trace := s.trace ++ (List.replicate n blk).flatten } := by
  induction n with
  | zero => simp
  | succ n ih =>
    rw [List.range_succ, List.foldl_append, ih, List.replicate_succ', List.flatten_append,
      List.flatten_singleton, ← List.append_assoc]
    exact hf _ rfl rfl

theorem test_eq (s : St) (n : Nat) :
    test s n = ⟨false, s.gradOn,
      s.trace ++ ([.setEval, .noGradEnter] ++ List.replicate n (.forward false false) ++ [.noGradExit])⟩ := by
  unfold test
  dsimp only
  rw [foldl_emits n _ [.forward false false] _ fun t h1 h2 => by simp [St.emit, h1, h2]]
  simp [St.emit]

theorem validate_eq (s : St) (n : Nat) : validate s n = if n = 0 then none else some (test s n) := rfl

theorem trainEpoch_eq (s : St) (n : Nat) :
    trainEpoch s n = if n = 0 ∨ s.gradOn = false then none
      else some ⟨true, s.gradOn, s.trace ++ [.setTrain] ++ (List.replicate n (batchBlock s.gradOn)).flatten⟩ := by
  unfold trainEpoch
  dsimp only
  rw [foldl_emits n _ (batchBlock s.gradOn) _ fun t h1 h2 => by simp [trainBatch, St.emit, batchBlock, h1, h2]]
  simp only [Bool.or_eq_true, beq_iff_eq, Bool.not_eq_true']
  rfl

theorem ite_emit (b : Bool) (s : St) (e : Ev) :
    (if b then s.emit e else s) = ⟨s.training, s.gradOn, s.trace ++ (if b then [e] else [])⟩ := by
  cases b <;> simp [St.emit]

theorem epoch_eq (c : Cfg) (s : St) :
    epoch c s = if (c.nTrain = 0 ∨ s.gradOn = false) ∨ c.nVal = some 0 then none
      else some ⟨c.nVal.isNone, s.gradOn, s.trace ++ epochBlock c s.gradOn⟩ := by
  unfold epoch
  simp only [ite_emit]
  simp only [trainEpoch_eq, validate_eq, test_eq, St.emit]
  by_cases h1 : c.nTrain = 0 ∨ s.gradOn = false
  · rw [if_pos h1, if_pos (Or.inl h1)]; rfl
  · unfold epochBlock
    cases c.nVal with
    | none => simp [h1]
    | some nv => simp [h1]

theorem fitFrom_spec (c : Cfg) : ∀ (k : Nat) (s s' : St), fitFrom c k s = some s' →
    s'.trace = s.trace ++ (List.replicate k (epochBlock c s.gradOn)).flatten ∧ s'.gradOn = s.gradOn := by
  intro k
  induction k with
  | zero => intro s s' h; cases h; simp
  | succ k ih =>
    intro s s' h
    rw [fitFrom, epoch_eq] at h
    split at h
    · cases h
    · obtain ⟨f1, f2⟩ := ih _ s' h
      exact ⟨by rw [f1, List.replicate_succ, List.flatten_cons, List.append_assoc], f2⟩

/-- **Trace theorem.** Whenever `fit` returns, its event trace is exactly `epochs` copies of the
    epoch block, and the global gradient mode is left as it was found. -/
theorem fit_trace (c : Cfg) (tr0 g0 : Bool) (s : St) (h : fit c tr0 g0 = some s) :
    s.trace = (List.replicate c.epochs (epochBlock c g0)).flatten ∧ s.gradOn = g0 := by
  simpa using fitFrom_spec c c.epochs ⟨tr0, g0, []⟩ s h

theorem count_flatten_replicate (n : Nat) (l : List Ev) (e : Ev) : (List.replicate n l).flatten.count e = n * l.count e := by
  rw [List.count_flatten, List.map_replicate, List.sum_replicate_nat]

theorem count_step_opt (b : Bool) (e : Ev) (h : e ≠ .step) : (if b then [e] else []).count Ev.step = 0 := by
  cases b
  · rfl
  · exact List.count_eq_zero.mpr (by simpa using h.symm)

theorem count_step_epochBlock (c : Cfg) (g : Bool) : (epochBlock c g).count Ev.step = c.nTrain := by
  unfold epochBlock
  cases c.nVal <;>
    simp [count_flatten_replicate, batchBlock, count_step_opt, List.count_replicate]

/-- **epochs × len(train_loader) parameter updates.** -/
theorem steps_count (c : Cfg) (tr0 g0 : Bool) (s : St) (h : fit c tr0 g0 = some s) :
    countStep s.trace = c.epochs * c.nTrain := by
  rw [countStep, (fit_trace c tr0 g0 s h).1, count_flatten_replicate, count_step_epochBlock]

def inBatch (g : Bool) (e : Ev) : Prop := e ∈ batchBlock g

/-- **Step discipline.** In a run of batch blocks (the training part of every epoch block of `fit_trace` is one) every `step`
    is the 4th event of a block `forward(training = true, grad mode as found) ; zero_grad ; backward ; step`:
    what precedes it ends with the other three. -/
theorem step_discipline_block (g : Bool) (n : Nat) (pre post : List Ev)
    (h : (List.replicate n (batchBlock g)).flatten = pre ++ Ev.step :: post) :
    ∃ pre', pre = pre' ++ [Ev.forward true g, Ev.zeroGrad, Ev.backward] := by
  induction n generalizing pre with
  | zero => cases pre <;> cases h
  | succ n ih =>
    rw [List.replicate_succ] at h
    -- a `step` among the first four events of the trace is the fourth; a later one lies beyond the first block
    rcases pre with _ | ⟨a, _ | ⟨b, _ | ⟨c, _ | ⟨d, rest⟩⟩⟩⟩
    iterate 3 cases h
    · cases h; exact ⟨[], rfl⟩
    · obtain ⟨pre', rfl⟩ := ih rest (congrArg (List.drop 4) h)
      exact ⟨a :: b :: c :: d :: pre', rfl⟩

/-- validation never steps, never back-propagates, never zeroes: the validation part of the
    epoch block contains none of these events, and all its forwards run in eval mode with
    gradients off -/
theorem validation_pure (c : Cfg) (g : Bool) (nv : Nat) (hv : c.nVal = some nv) :
    ∃ trainPart, epochBlock c g = trainPart ++ (if c.cbVal then [Ev.cbVal] else [])
        ++ [Ev.setEval, Ev.noGradEnter] ++ List.replicate nv (Ev.forward false false) ++ [Ev.noGradExit] := by
  rw [epochBlock, hv]
  simp only [← List.append_assoc]
  exact ⟨_, rfl⟩

/-! ### Non-vacuity: concrete configurations on which `fit` returns -/
example : (fit { epochs := 2, nTrain := 3, nVal := some 2, cbTrain := true, cbVal := false } false true).isSome = true := by decide +kernel
example : (fit { epochs := 2, nTrain := 3, nVal := some 2, cbTrain := true, cbVal := false } false true).map
    (fun s => countStep s.trace) = some 6 := by decide +kernel

/-- **`test` runs in eval mode with gradients off, updates nothing, and restores the gradient mode it found**
    (whatever that mode was — e.g. when the caller is itself inside `no_grad`): its trace is
    `eval, no_grad+, n × forward(eval, grad off), no_grad-`. -/
theorem test_trace (tr0 g0 : Bool) (n : Nat) :
    (test ⟨tr0, g0, []⟩ n).trace = [Ev.setEval, Ev.noGradEnter] ++ List.replicate n (Ev.forward false false) ++ [Ev.noGradExit] ∧
    (test ⟨tr0, g0, []⟩ n).gradOn = g0 ∧ (test ⟨tr0, g0, []⟩ n).training = false ∧
    countStep (test ⟨tr0, g0, []⟩ n).trace = 0 := by
  rw [test_eq]
  simp [countStep, List.count_replicate]

example : (test ⟨true, false, []⟩ 2).trace = [.setEval, .noGradEnter, .forward false false, .forward false false, .noGradExit] := by decide +kernel

/-- **History shape**: one entry per epoch for the loss and every metric, `val_` prefixed keys
    exactly when a validation loader is given. -/
theorem history_shape (c : Cfg) (ev : Bool) :
    (∀ kv ∈ historyKeys c ev, kv.2 = c.epochs) ∧
    (0 < c.epochs → (("loss", c.epochs) ∈ historyKeys c ev) ∧
      ((("val_loss", c.epochs) ∈ historyKeys c ev) ↔ c.nVal.isSome)) := by
  unfold historyKeys
  by_cases h0 : c.epochs = 0
  · rw [if_pos h0]
    exact ⟨nofun, fun hpos => absurd h0 (Nat.pos_iff_ne_zero.mp hpos)⟩
  · rw [if_neg h0]
    refine ⟨?_, fun _ => ⟨List.mem_append_left _ (List.mem_append_left _ (List.mem_singleton_self _)), ?_⟩⟩
    · cases c.nVal <;> simp only [List.mem_append, List.mem_singleton, List.mem_ite_nil_right, List.not_mem_nil, or_false]
      · rintro kv (rfl | ⟨-, rfl⟩) <;> rfl
      · rintro kv ((rfl | ⟨-, rfl⟩) | rfl | ⟨-, rfl⟩) <;> rfl
    · cases c.nVal with
      | none => simp
      | some nv => exact iff_of_true (List.mem_append_right _ (List.mem_append_left _ (List.mem_singleton_self _))) rfl

/-- **Accuracy** is (#positions where prediction = label) / (#labels). -/
theorem accuracy_spec (yt yp : List Nat) (h : yt.length = yp.length) :
    (accuracyCount yt yp).2 = yt.length ∧ (accuracyCount yt yp).1 ≤ yt.length ∧
    ((accuracyCount yt yp).1 = yt.length ↔ yt = yp) := by
  refine ⟨rfl, ?_⟩
  unfold accuracyCount
  induction yt generalizing yp with
  | nil => cases yp with
    | nil => exact ⟨Nat.le_refl _, Iff.intro (fun _ => rfl) (fun _ => rfl)⟩
    | cons b u => cases h
  | cons a t ih =>
    cases yp with
    | nil => cases h
    | cons b u =>
      obtain ⟨i2, i3⟩ := ih u (Nat.succ.inj h)
      rw [List.zipWith_cons_cons, List.sum_cons, List.length_cons, List.cons.injEq, ← i3]
      split
      · next hab =>
        rw [Nat.add_comm _ 1, Nat.add_le_add_iff_left, Nat.add_left_cancel_iff]
        exact ⟨i2, (and_iff_right hab).symm⟩
      · next hab =>
        rw [Nat.zero_add]
        exact ⟨Nat.le_succ_of_le i2, fun e => absurd (e ▸ i2) (Nat.not_succ_le_self _), fun e => absurd e.1 hab⟩

/-! ## The values in the history, and the Evaluator as a state machine

Scores are integers on a common positive `scale` (output = score / scale), losses are exact rationals. -/

theorem half_lt_div_iff (a : Int) (s : Nat) (hs : 0 < s) : ((a : Rat) / (s : Rat) > 1 / 2) ↔ 2 * a > (s : Int) := by
  -- `1/2 < a/s ↔ s/2 < a ↔ s < a·2`, with the lemmas of core `Rat` (Mathlib's `div_lt_div_iff₀` is slow to elaborate at `Rat`)
  rw [gt_iff_lt, Rat.lt_div_iff (Rat.natCast_pos.mpr hs), Rat.mul_comm, Rat.div_def 1, Rat.one_mul, ← Rat.div_def,
    Rat.div_lt_iff (by decide), ← Rat.intCast_natCast, ← Rat.intCast_ofNat, ← Rat.intCast_mul, Rat.intCast_lt_intCast, Int.mul_comm]

/-- **binary**: the prediction is 1 exactly when the output exceeds one half -/
theorem decode_binary (scale : Nat) (hs : 0 < scale) (s : Sample) :
    decodePred .binary scale s = if ((s.score.headD 0 : Int) : Rat) / ((scale : Nat) : Rat) > 1 / 2 then 1 else 0 := by
  simp only [decodePred, half_lt_div_iff _ _ hs]

/-- **multi-class / categorical**: the prediction is the first index of the row maximum — the row splits as
    `l ++ m :: r`, the prediction is `|l|`, every earlier score is strictly smaller, no later one is larger -/
theorem decode_argmax (mode : Mode) (hm : mode ≠ .binary) (scale : Nat) (s : Sample) (h : s.score ≠ []) :
    ∃ l m r, s.score = l ++ m :: r ∧ decodePred mode scale s = (l.length : Int) ∧ (∀ a ∈ l, a < m) ∧ (∀ a ∈ r, a ≤ m) := by
  obtain ⟨l, m, r, e1, e2, e3, e4⟩ := argmax_split s.score h
  refine ⟨l, m, r, e1, ?_, e3, e4⟩
  cases mode with
  | binary => exact absurd rfl hm
  | multiClass => simp [decodePred, e2]
  | categorical => simp [decodePred, e2]

/-- the label is taken as given (binary, multi-class) or is the first index of the maximum of the one-hot row (categorical) -/
theorem decode_label (s : Sample) :
    decodeTrue .binary s = s.label.headD 0 ∧ decodeTrue .multiClass s = s.label.headD 0 ∧
    (s.label ≠ [] → ∃ l m r, s.label = l ++ m :: r ∧ decodeTrue .categorical s = (l.length : Int) ∧
        (∀ a ∈ l, a < m) ∧ (∀ a ∈ r, a ≤ m)) := by
  refine ⟨rfl, rfl, fun h => ?_⟩
  obtain ⟨l, m, r, e1, e2, e3, e4⟩ := argmax_split s.label h
  exact ⟨l, m, r, e1, by simp [decodeTrue, e2], e3, e4⟩

/-- the `int16` buffers store every value of the `int16` range unchanged -/
theorem wrap16_id (x : Int) (h1 : -32768 ≤ x) (h2 : x < 32768) : wrap16 x = x := by
  unfold wrap16; omega

/-- `correctCount` is the number of samples whose decoded (int16) label equals the decoded (int16) prediction -/
theorem correctCount_def (cfg : EvCfg) (ss : List Sample) :
    correctCount cfg ss = (ss.filter (fun s =>
      decide (wrap16 (decodeTrue cfg.mode s) = wrap16 (decodePred cfg.mode cfg.scale s)))).length ∧
    correctCount cfg ss ≤ ss.length := ⟨rfl, List.length_filter_le _ _⟩

/-- with labels and class indices inside the `int16` range, "correct" is plain equality of the decoded label and
    the decoded prediction -/
theorem correct_of_int16_range (cfg : EvCfg) (s : Sample)
    (ht : -32768 ≤ decodeTrue cfg.mode s ∧ decodeTrue cfg.mode s < 32768)
    (hp : -32768 ≤ decodePred cfg.mode cfg.scale s ∧ decodePred cfg.mode cfg.scale s < 32768) :
    correct cfg s = decide (decodeTrue cfg.mode s = decodePred cfg.mode cfg.scale s) := by
  unfold correct
  rw [wrap16_id _ ht.1 ht.2, wrap16_id _ hp.1 hp.2]

/-- quirk: outside it the stored values wrap — label 65539 is "equal" to prediction 3 -/
example : correct { accuracy := true, mode := .multiClass, scale := 1, epochCb := none, stepCb := none } ⟨[65539], [0, 1, 2, 3]⟩ = true := by decide +kernel

/-- the metric list `compute(prefix)` returns on buffers holding the samples `ss` -/
def computeOn (cfg : EvCfg) (pre : Option String) (ss : List Sample) : List Metric :=
  prefixed pre ((if cfg.accuracy then [("accuracy", MVal.frac (correctCount cfg ss) ss.length)] else []) ++
    (match cfg.epochCb with
     | none => []
     | some f => f (batchTrue cfg ss) (batchPred cfg ss)))

theorem computeMetrics_batch (cfg : EvCfg) (pre : Option String) (ss : List Sample) :
    computeMetrics cfg (batchTrue cfg ss) (batchPred cfg ss) pre cfg.epochCb = computeOn cfg pre ss := by
  simp only [computeMetrics, basicAccuracy, countEq_batch, batchTrue_length]
  rfl

theorem specMetrics_empty (cfg : EvCfg) (pre : Option String) (key : String) (bs : List LBatch) :
    specMetrics (some cfg) pre key EvState.empty bs = (key, .num (meanLoss bs)) :: computeOn cfg pre (samplesOf bs) := by
  simp only [specMetrics, stAfter, EvState.empty, List.nil_append, computeMetrics_batch]
  rfl

/-- the shape one sample must have, spelled out per mode -/
theorem wellShaped_iff (mode : Mode) (s : Sample) :
    wellShaped mode s = true ↔
      (match mode with
       | .binary => s.score.length = 1 ∧ s.label.length = 1
       | .multiClass => 2 ≤ s.score.length ∧ s.label.length = 1
       | .categorical => 2 ≤ s.score.length ∧ 2 ≤ s.label.length) := by
  cases mode <;> simp [wellShaped]

/-- **Admissibility does not depend on the batch size**: a batch goes through iff each of its samples is well
    shaped — whether it holds no sample, one sample or many. -/
theorem stepOk_iff (mode : Mode) (b : List Sample) : stepOk mode b = true ↔ ∀ s ∈ b, wellShaped mode s = true :=
  List.all_eq_true

/-- a batch of ONE sample is admissible exactly when that sample is well shaped -/
theorem stepOk_singleton (mode : Mode) (s : Sample) : stepOk mode [s] = wellShaped mode s := by
  simp [stepOk]

/-- well-shaped samples may be grouped into batches in any way whatsoever -/
theorem grouping_admissible (mode : Mode) (bs : List (List Sample)) (hw : ∀ s ∈ bs.flatten, wellShaped mode s = true) :
    ∀ b ∈ bs, stepOk mode b = true := by
  intro b hb
  rw [stepOk_iff]
  intro s hs
  exact hw s (List.mem_flatten.mpr ⟨b, hb, hs⟩)

/-- **The evaluator accumulates.**  After `reset` / `compute` the buffers are empty; after any sequence of `step`s
    from there — batches of ANY size, one-sample batches and empty batches included, as long as every sample is well
    shaped — they hold the decoded labels and predictions of all the samples of all those batches, in order;
    `compute` then returns the accuracy pair (number of samples whose decoded label equals the decoded prediction,
    number of samples) over their concatenation — followed by the epoch callback's metrics on the same
    concatenation, all prefixed — and empties the buffers; a `compute` on empty buffers reports `frac 0 0`, i.e.
    NumPy's `0 / 0 = nan` (`toRat? = none`): it does not raise and it is no number. -/
theorem evaluator_accumulates (cfg : EvCfg) (pre pre' : Option String) (st0 : EvState) (bs : List (List Sample))
    (hw : ∀ s ∈ bs.flatten, wellShaped cfg.mode s = true) :
    (evCompute cfg st0 pre').1 = EvState.empty ∧ evReset st0 = EvState.empty ∧
    evSteps cfg pre EvState.empty bs = some ⟨batchTrue cfg bs.flatten, batchPred cfg bs.flatten⟩ ∧
    evCompute cfg ⟨batchTrue cfg bs.flatten, batchPred cfg bs.flatten⟩ pre' = (EvState.empty, computeOn cfg pre' bs.flatten) ∧
    evCompute cfg EvState.empty pre' = (EvState.empty, computeOn cfg pre' []) ∧
    (cfg.accuracy = true → cfg.epochCb = none → computeOn cfg none [] = [("accuracy", MVal.frac 0 0)]) ∧
    (MVal.frac 0 0).toRat? = none := by
  refine ⟨rfl, rfl, ?_, ?_, ?_, ?_, rfl⟩
  · rw [evSteps_eq, if_pos (List.all_eq_true.mpr hw)]; rfl
  · rw [evCompute, computeMetrics_batch]; rfl
  · exact congrArg (Prod.mk _) (computeMetrics_batch cfg pre' [])
  · intro ha hc
    simp [computeOn, ha, hc, prefixed, correctCount]

/-- a step with ONE well-shaped sample goes through: one decoded label and one decoded prediction are appended, and the
    step metrics are those of that one sample -/
theorem evaluator_accepts_one_sample (cfg : EvCfg) (st : EvState) (pre : Option String) (s : Sample)
    (hw : wellShaped cfg.mode s = true) :
    evStep cfg st pre [s] = some (⟨st.yTrue ++ [wrap16 (decodeTrue cfg.mode s)], st.yPred ++ [wrap16 (decodePred cfg.mode cfg.scale s)]⟩,
      computeMetrics cfg [wrap16 (decodeTrue cfg.mode s)] [wrap16 (decodePred cfg.mode cfg.scale s)] pre cfg.stepCb) := by
  rw [evStep, stepOk_singleton, hw]
  rfl

/-- **What is rejected**: `step` raises (the model returns no new state) exactly when some sample of the batch is
    not well shaped -/
theorem evaluator_rejects (cfg : EvCfg) (st : EvState) (pre : Option String) (b : List Sample) :
    evStep cfg st pre b = none ↔ ∃ s ∈ b, wellShaped cfg.mode s = false := by
  have : evStep cfg st pre b = none ↔ stepOk cfg.mode b = false := by
    rw [evStep]; cases stepOk cfg.mode b <;> simp
  simp only [this, stepOk, List.all_eq_false, Bool.not_eq_true]

/-- … in particular a single score column in an arg-max mode (`(N,1)` outputs lose the class axis: `AxisError`),
    whatever the batch size -/
theorem evaluator_rejects_single_column (cfg : EvCfg) (hm : cfg.mode ≠ .binary) (st : EvState) (pre : Option String)
    (b : List Sample) (s : Sample) (hs : s ∈ b) (hk : s.score.length < 2) : evStep cfg st pre b = none := by
  refine (evaluator_rejects cfg st pre b).mpr ⟨s, hs, ?_⟩
  cases hmode : cfg.mode with
  | binary => exact absurd hmode hm
  | multiClass => rw [wellShaped, decide_eq_false (Nat.not_le.mpr hk)]; rfl
  | categorical => rw [wellShaped, decide_eq_false (Nat.not_le.mpr hk)]; rfl

/-- the buffers depend on the samples only, not on how they are grouped into batches — ill-shaped samples included: then both
    sides raise -/
theorem evSteps_regroup (cfg : EvCfg) (pre : Option String) (st : EvState) (bs bs' : List (List Sample))
    (hflat : bs.flatten = bs'.flatten) : evSteps cfg pre st bs = evSteps cfg pre st bs' := by
  rw [evSteps_eq, evSteps_eq, hflat]

/-- **Batching invariance** (evaluator level): ANY two groupings of the same well-shaped samples — batches of any
    sizes, one-sample batches included — give the same `compute` result: every metric, the callback's included.
    (`hw` is not needed: see `evSteps_regroup`.) -/
theorem accuracy_batching_invariant (cfg : EvCfg) (pre pre' : Option String) (bs bs' : List (List Sample))
    (hflat : bs.flatten = bs'.flatten) (hw : ∀ s ∈ bs.flatten, wellShaped cfg.mode s = true) :
    (evSteps cfg pre EvState.empty bs).map (fun st => evCompute cfg st pre')
      = (evSteps cfg pre EvState.empty bs').map (fun st => evCompute cfg st pre') := by
  rw [evSteps_regroup cfg pre _ bs bs' hflat]

/-- … in particular feeding the samples one at a time gives the same result as any batching -/
theorem accuracy_regroup_singletons (cfg : EvCfg) (pre pre' : Option String) (bs : List (List Sample))
    (hw : ∀ s ∈ bs.flatten, wellShaped cfg.mode s = true) :
    (evSteps cfg pre EvState.empty (bs.flatten.map (fun s => [s]))).map (fun st => evCompute cfg st pre')
      = (evSteps cfg pre EvState.empty bs).map (fun st => evCompute cfg st pre') := by
  exact (accuracy_batching_invariant cfg pre pre' bs _ (by rw [← List.flatMap_def, List.flatMap_singleton']) hw).symm

/-- every epoch's metric names are pairwise different (no callback metric is called like another metric
    of the epoch: "loss", "accuracy", "val_loss", …) -/
def KeysOk (ev : Option EvCfg) (hasVal : Bool) (ds : List EpochData) : Prop :=
  ∀ d ∈ ds, ((epochSpec ev hasVal d).map Prod.fst).Nodup

theorem hist_values {ev : Option EvCfg} {hasVal : Bool} {ds : List EpochData} {st : EvState} {H : Hist}
    (hfit : fitHist ev hasVal EvState.empty ds = some (st, H)) (k : String) :
    histGet H k = ds.flatMap fun d => valuesNamed k (epochSpec ev hasVal d) := by
  rw [histGet_record _ _ _ (fitV_spec ev hasVal ds [] H st hfit).2.1 k, valuesNamed_flatMap]
  rfl

theorem hist_column {ev : Option EvCfg} {hasVal : Bool} {ds : List EpochData} {st : EvState} {H : Hist}
    (hfit : fitHist ev hasVal EvState.empty ds = some (st, H)) (hkeys : KeysOk ev hasVal ds) (k : String) (f : EpochData → MVal)
    (hk : ∀ d ∈ ds, (k, f d) ∈ epochSpec ev hasVal d) : histGet H k = ds.map f := by
  rw [hist_values hfit, List.map_eq_flatMap, List.flatMap_def, List.flatMap_def,
    List.map_congr_left fun d hd => valuesNamed_of_nodup _ _ _ (hkeys d hd) (hk d hd)]

theorem loss_mem_specMetrics (ev : Option EvCfg) (pre : Option String) (key : String) (st : EvState) (bs : List LBatch) :
    (key, MVal.num (meanLoss bs)) ∈ specMetrics ev pre key st bs :=
  List.mem_append_left _ (List.mem_singleton.mpr rfl)

theorem accuracy_mem_computeOn (cfg : EvCfg) (hacc : cfg.accuracy = true) (ss : List Sample) :
    ("accuracy", MVal.frac (correctCount cfg ss) ss.length) ∈ computeOn cfg none ss ∧
    ("val_accuracy", MVal.frac (correctCount cfg ss) ss.length) ∈ computeOn cfg (some "val") ss := by
  simp only [computeOn, hacc]
  exact ⟨List.mem_cons_self, List.mem_cons_self⟩

/-- **The reported epoch loss is the mean of the per-batch losses**, for the training loss of every epoch and
    (with a validation loader) the validation loss of every epoch; the mean is a genuine quotient: `fit` does
    not return at all on a loader without batches. -/
theorem epoch_loss_is_mean {ev : Option EvCfg} {hasVal : Bool} {ds : List EpochData} {st : EvState} {H : Hist}
    (hfit : fitHist ev hasVal EvState.empty ds = some (st, H)) (hkeys : KeysOk ev hasVal ds) :
    histGet H "loss" = ds.map (fun d => MVal.num ((d.train.map (·.loss)).sum / (d.train.length : Rat))) ∧
    (hasVal = true → histGet H "val_loss" = ds.map (fun d => MVal.num ((d.val.map (·.loss)).sum / (d.val.length : Rat)))) ∧
    (∀ d ∈ ds, d.train.length ≠ 0 ∧ (hasVal = true → d.val.length ≠ 0)) := by
  refine ⟨hist_column hfit hkeys _ _ fun d _ => ?_, fun hv => hist_column hfit hkeys _ _ fun d _ => ?_, ?_⟩
  · exact List.mem_append_left _ (loss_mem_specMetrics ev none "loss" _ d.train)
  · rw [hv]
    exact List.mem_append_right _ (loss_mem_specMetrics ev (some "val") "val_loss" _ d.val)
  · intro d hd
    obtain ⟨a, b⟩ := (fitV_spec ev hasVal ds [] H st hfit).2.2 d hd
    exact ⟨by simpa using a, fun hv => by simpa using b hv⟩

/-- **Accuracy is the fraction of correct predictions over the whole epoch**: the pair stored for epoch `d` is
    (number of samples of ALL its batches whose decoded label equals the decoded prediction, number of those
    samples) — not a mean of per-batch accuracies; likewise `val_accuracy` over the validation batches.
    (Decoding: `decode_binary`, `decode_argmax`, `decode_label`.) -/
theorem accuracy_is_fraction_correct {cfg : EvCfg} {hasVal : Bool} {ds : List EpochData} {st : EvState} {H : Hist}
    (hacc : cfg.accuracy = true)
    (hfit : fitHist (some cfg) hasVal EvState.empty ds = some (st, H)) (hkeys : KeysOk (some cfg) hasVal ds) :
    histGet H "accuracy" = ds.map (fun d => MVal.frac (correctCount cfg (samplesOf d.train)) (samplesOf d.train).length) ∧
    (hasVal = true → histGet H "val_accuracy" =
      ds.map (fun d => MVal.frac (correctCount cfg (samplesOf d.val)) (samplesOf d.val).length)) := by
  refine ⟨hist_column hfit hkeys _ _ fun d _ => ?_, fun hv => hist_column hfit hkeys _ _ fun d _ => ?_⟩
  · rw [epochSpec, specMetrics_empty]
    exact List.mem_append_left _ (List.mem_cons_of_mem _ (accuracy_mem_computeOn cfg hacc _).1)
  · rw [epochSpec, hv, specMetrics_empty, specMetrics_empty]
    exact List.mem_append_right _ (List.mem_cons_of_mem _ (accuracy_mem_computeOn cfg hacc _).2)

/-- **Batching invariance** (history level): two runs whose epochs contain the same training samples, grouped into
    batches in any two ways, report the same accuracy for every epoch. -/
theorem accuracy_batching_invariant_fit {cfg : EvCfg} {hasVal : Bool} {ds ds' : List EpochData} {st st' : EvState} {H H' : Hist}
    (hacc : cfg.accuracy = true)
    (hfit : fitHist (some cfg) hasVal EvState.empty ds = some (st, H)) (hkeys : KeysOk (some cfg) hasVal ds)
    (hfit' : fitHist (some cfg) hasVal EvState.empty ds' = some (st', H')) (hkeys' : KeysOk (some cfg) hasVal ds')
    (hsame : ds.map (fun d => samplesOf d.train) = ds'.map (fun d => samplesOf d.train)) :
    histGet H "accuracy" = histGet H' "accuracy" := by
  rw [(accuracy_is_fraction_correct hacc hfit hkeys).1, (accuracy_is_fraction_correct hacc hfit' hkeys').1]
  have := congrArg (List.map fun ss => MVal.frac (correctCount cfg ss) ss.length) hsame
  rwa [List.map_map, List.map_map] at this

/-- the callback (if any) always returns metrics with the names `names`, in that order -/
def CbNames (cb : Option Callback) (names : List String) : Prop :=
  match cb with
  | none => names = []
  | some f => ∀ yt yp, (f yt yp).map Prod.fst = names

def evKeys (ev : Option EvCfg) (names : List String) : List String :=
  match ev with
  | none => []
  | some cfg => (if cfg.accuracy then ["accuracy"] else []) ++ names

/-- the keys of the history: the loss, accuracy (if enabled), the epoch callback's metrics; then the same with `val_` -/
def epochKeys (ev : Option EvCfg) (names : List String) (hasVal : Bool) : List String :=
  ["loss"] ++ evKeys ev names ++
    (if hasVal then ["val_loss"] ++ (evKeys ev names).map (fun m => "val" ++ "_" ++ m) else [])

theorem computeOn_keys (cfg : EvCfg) (names : List String) (hn : CbNames cfg.epochCb names) (pre : Option String) (ss : List Sample) :
    (computeOn cfg pre ss).map Prod.fst =
      match pre with | none => evKeys (some cfg) names | some p => (evKeys (some cfg) names).map (fun m => p ++ "_" ++ m) := by
  have h0 : (computeOn cfg none ss).map Prod.fst = evKeys (some cfg) names := by
    rw [computeOn, prefixed, List.map_append]
    congr 1
    · cases cfg.accuracy <;> rfl
    · revert hn
      cases cfg.epochCb with
      | none => exact Eq.symm
      | some f => exact fun hn => hn _ _
  cases pre with
  | none => exact h0
  | some p => rw [← h0]; simp only [computeOn, prefixed, List.map_map]; rfl

theorem epochSpec_keys (ev : Option EvCfg) (names : List String) (hasVal : Bool) (d : EpochData)
    (hn : match ev with | none => True | some cfg => CbNames cfg.epochCb names) :
    (epochSpec ev hasVal d).map Prod.fst = epochKeys ev names hasVal := by
  cases ev with
  | none => cases hasVal <;> rfl
  | some cfg =>
    simp only [epochSpec, specMetrics_empty, epochKeys]
    cases hasVal <;> simp [computeOn_keys cfg names hn]

/-- **One entry per epoch for every key.**  When the epoch callback's metric names are fixed and no two metric
    names of an epoch coincide, the returned history has — as soon as there is one epoch — exactly the keys
    `loss`, `accuracy` (if enabled), the callback metrics, and their `val_` counterparts iff a validation loader
    was given, in this order, and the list under each of them has exactly `epochs` entries. -/
theorem history_one_entry_per_epoch {ev : Option EvCfg} {hasVal : Bool} {ds : List EpochData} {st : EvState} {H : Hist}
    (names : List String) (hn : match ev with | none => True | some cfg => CbNames cfg.epochCb names)
    (hnd : (epochKeys ev names hasVal).Nodup)
    (hfit : fitHist ev hasVal EvState.empty ds = some (st, H)) :
    (∀ k ∈ epochKeys ev names hasVal, (histGet H k).length = ds.length) ∧
    H.map Prod.fst = (if ds = [] then [] else epochKeys ev names hasVal) ∧
    (∀ kv ∈ H, kv.2.length = ds.length) := by
  have hkeys : ∀ d, (epochSpec ev hasVal d).map Prod.fst = epochKeys ev names hasVal :=
    fun d => epochSpec_keys ev names hasVal d hn
  have hlen : ∀ k ∈ epochKeys ev names hasVal, (histGet H k).length = ds.length := by
    intro k hk
    rw [hist_values hfit, List.length_flatMap,
      List.map_congr_left fun d _ => valuesNamed_length_of_nodup _ k (by rw [hkeys d]; exact hnd) (by rw [hkeys d]; exact hk),
      List.map_const', List.sum_replicate_nat, Nat.mul_one]
  have hkeysH : H.map Prod.fst = (if ds = [] then [] else epochKeys ev names hasVal) := by
    rw [keys_record _ _ _ (fitV_spec ev hasVal ds [] H st hfit).2.1, List.map_flatMap]
    simp only [hkeys]
    exact addKeys_flatMap_const _ hnd ds
  refine ⟨hlen, hkeysH, fun kv hkv => ?_⟩
  have hmem : kv.1 ∈ H.map Prod.fst := List.mem_map_of_mem hkv
  have hndH : (H.map Prod.fst).Nodup := by rw [hkeysH]; split; exacts [List.nodup_nil, hnd]
  rw [hkeysH] at hmem
  split at hmem
  · cases hmem
  · rw [← hlen kv.1 hmem, histGet_of_mem H kv hkv hndH]

/-- **Second and later `fit` calls.**  Successive `fit` calls on one compiled Trainer (any numbers of epochs, each with or
    without a validation loader), started with an evaluator that holds nothing: every call that returns leaves the evaluator
    empty again, and the history it returns has exactly the keys of ITS configuration, each with exactly as many entries as
    ITS epochs — nothing of the earlier calls is in it. -/
theorem refit_history_one_entry_per_epoch {ev : Option EvCfg} (names : List String)
    (hn : match ev with | none => True | some cfg => CbNames cfg.epochCb names)
    (hnd : ∀ hv, (epochKeys ev names hv).Nodup) :
    ∀ (calls : List (Bool × List EpochData)) (st : EvState) (Hs : List Hist),
      refits ev EvState.empty calls = some (st, Hs) →
      st = EvState.empty ∧
      List.Forall₂ (fun (c : Bool × List EpochData) (H : Hist) =>
        H.map Prod.fst = (if c.2 = [] then [] else epochKeys ev names c.1) ∧ ∀ kv ∈ H, kv.2.length = c.2.length) calls Hs := by
  intro calls
  induction calls with
  | nil => intro st Hs h; cases h; exact ⟨rfl, .nil⟩
  | cons c cs ih =>
    intro st Hs h
    rw [refits] at h
    split at h
    · cases h
    next s1 H hf =>
    obtain rfl : s1 = EvState.empty := (fitV_spec ev c.1 c.2 [] H s1 hf).1
    obtain ⟨⟨s2, Hs'⟩, hr, h⟩ := Option.map_eq_some_iff.mp h
    cases h
    exact ⟨(ih s2 Hs' hr).1, .cons (history_one_entry_per_epoch names hn (hnd c.1) hf).2 (ih s2 Hs' hr).2⟩

/-- a `test` between two calls changes nothing that a later call sees -/
theorem session_test_transparent (ev : Option EvCfg) (st : EvState) (b : List (List Sample)) (cs : List Call) :
    session ev st (.test b :: cs) =
      (session ev st cs).map (fun p => (p.1, Ret.testRet (testReturn b).1 (testReturn b).2 :: p.2)) := by
  simp [session, Call.run]

/-- the dictionary a `fit` call returns does not depend on what the Trainer returned before: in a session, the answer of a
    `fit` call is `fitHist` of that call's own arguments and of the evaluator state the call found -/
theorem session_fit_fresh (ev : Option EvCfg) (st : EvState) (hv : Bool) (ds : List EpochData) (cs : List Call) :
    session ev st (.fit hv ds :: cs) =
      (fitHist ev hv st ds).bind (fun r => (session ev r.1 cs).map (fun p => (p.1, Ret.hist r.2 :: p.2))) := by
  simp only [session, Call.run]
  cases fitHist ev hv st ds <;> simp

/-- `Trainer.test` returns one output row and one label per sample of the loader, in loader order -/
theorem test_returns_all_samples (batches : List (List Sample)) :
    (testReturn batches).1 = batches.flatten.map (·.score) ∧ (testReturn batches).2 = batches.flatten.map (·.label) ∧
    (testReturn batches).1.length = (batches.map List.length).sum ∧ (testReturn batches).2.length = (batches.map List.length).sum := by
  simp [testReturn, Function.comp_def]

/-! ### Non-vacuity: concrete evaluators and histories -/
def cfgMC : EvCfg := { accuracy := true, mode := .multiClass, scale := 1, epochCb := none, stepCb := none }
def cfgBin : EvCfg :=
  { accuracy := true, mode := .binary, scale := 4, epochCb := some (fun yt _ => [("n", .cb yt.length true)]), stepCb := none }

/-- step, step, compute, compute : 3 of 5 correct (ties go to the first index), then empty, then `0/0` -/
example : (evSteps cfgMC none EvState.empty
      [[⟨[1], [1, 5, 5]⟩, ⟨[0], [3, 3, 3]⟩], [⟨[2], [0, 1, 9]⟩, ⟨[2], [7, 1, 7]⟩, ⟨[1], [9, 1, 0]⟩]]).map
      (fun st => (evCompute cfgMC st (some "val"), evCompute cfgMC (evCompute cfgMC st none).1 none))
    = some ((EvState.empty, [("val_accuracy", .frac 3 5)]), (EvState.empty, [("accuracy", .frac 0 0)])) := by decide +kernel

/-- binary: 3/4 is above one half, 2/4 is not -/
example : (evStep cfgBin EvState.empty none [⟨[1], [3]⟩, ⟨[1], [2]⟩]).map (·.1) = some ⟨[1, 1], [1, 0]⟩ := by decide +kernel

/-- a batch of one sample goes through; a single score column in an arg-max mode is rejected -/
example : (evStep cfgMC EvState.empty none [⟨[1], [1, 5]⟩]).map (·.1) = some ⟨[1], [1]⟩ := by decide +kernel
example : evStep cfgMC EvState.empty none [⟨[0], [5]⟩, ⟨[0], [7]⟩] = none := by decide +kernel
/-- one at a time or all at once: the same accuracy -/
example : (evSteps cfgMC none EvState.empty [[⟨[1], [1, 5]⟩], [⟨[0], [3, 3]⟩], [⟨[0], [0, 9]⟩]]).map (fun st => (evCompute cfgMC st none).2)
    = some [("accuracy", .frac 2 3)] := by decide +kernel

/-- two epochs, two training batches of different sizes and one validation batch each, callback metric `n` -/
example : (fitHist (some cfgBin) true EvState.empty
      [⟨[⟨3/8, [⟨[1], [3]⟩, ⟨[0], [3]⟩]⟩, ⟨1/8, [⟨[1], [3]⟩, ⟨[0], [1]⟩, ⟨[0], [2]⟩]⟩], [⟨1/2, [⟨[1], [1]⟩, ⟨[0], [1]⟩]⟩]⟩,
       ⟨[⟨1, [⟨[1], [3]⟩, ⟨[0], [0]⟩]⟩, ⟨0, [⟨[1], [3]⟩, ⟨[0], [1]⟩, ⟨[0], [2]⟩]⟩], [⟨1/3, [⟨[1], [3]⟩, ⟨[0], [1]⟩]⟩]⟩]).map (·.2)
    = some [("loss", [.num (1/4), .num (1/2)]), ("accuracy", [.frac 4 5, .frac 5 5]), ("n", [.cb 5 true, .cb 5 true]),
            ("val_loss", [.num (1/2), .num (1/3)]), ("val_accuracy", [.frac 1 2, .frac 2 2]), ("val_n", [.cb 2 true, .cb 2 true])] := by
  decide +kernel

/-- the hypotheses of the history theorems hold for that configuration -/
example : (epochKeys (some cfgBin) ["n"] true).Nodup := by decide +kernel
example : CbNames cfgBin.epochCb ["n"] := fun _ _ => rfl

/-- quirk: a callback metric called "loss" lands in the loss list — two entries per epoch -/
example : (fitHist (some { cfgMC with epochCb := some (fun _ _ => [("loss", .cb 7 true)]) }) false EvState.empty
      [⟨[⟨1/2, []⟩], []⟩]).map (·.2) = some [("loss", [.num (1/2), .cb 7 true]), ("accuracy", [.frac 0 0])] := by
  decide +kernel

/-- quirk: what the evaluator had accumulated before `fit` is counted in the first epoch -/
example : (fitHist (some cfgMC) false ⟨[0, 0, 0], [1, 1, 1]⟩
      [⟨[⟨0, [⟨[1], [1, 5]⟩, ⟨[0], [3, 3]⟩]⟩], []⟩, ⟨[⟨0, [⟨[1], [1, 5]⟩, ⟨[0], [3, 3]⟩]⟩], []⟩]).map (·.2)
    = some [("loss", [.num 0, .num 0]), ("accuracy", [.frac 2 5, .frac 2 2])] := by
  decide +kernel

/-- fit for two epochs, then for one more on the same trainer: the second history has ONE entry per key -/
example : (refits (some cfgMC) EvState.empty
      [(false, [⟨[⟨1/2, [⟨[1], [1, 5]⟩]⟩], []⟩, ⟨[⟨1/4, [⟨[0], [1, 5]⟩]⟩], []⟩]), (false, [⟨[⟨1, [⟨[1], [1, 5]⟩]⟩], []⟩])]).map (·.2)
    = some [[("loss", [.num (1/2), .num (1/4)]), ("accuracy", [.frac 1 1, .frac 0 1])], [("loss", [.num 1]), ("accuracy", [.frac 1 1])]] := by
  decide +kernel

/-- a metric value that is not a float, a loader without batches: `fit` does not return -/
example : fitHist (some { cfgMC with epochCb := some (fun _ _ => [("m", .cb 7 false)]) }) false EvState.empty
      [⟨[⟨1/2, []⟩], []⟩] = none := by decide +kernel
example : fitHist none true EvState.empty [⟨[⟨1/2, []⟩], []⟩] = none := by decide +kernel

end Props.C20
