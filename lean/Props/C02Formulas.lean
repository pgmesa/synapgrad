import Proofs.FormulaTie
/-!
# C02 — the activation / loss formulas of the source, read on this run, are derivatives of each other and are what the model applies

See `Props/C01Formulas.lean` for `SrcVJP` and the role of `Synap.Gen.*` (regenerated from `cpu_ops.py` on every run).
-/
namespace Props.C02
open Synap Synap.NDArray Synap.Kernels Proofs.FormulaTie Proofs.NL

theorem src_relu_vjp : SrcVJP Gen.relu_forward Gen.relu_backward (fun x => x ≠ 0) := src_relu
/-- at the kink the source's choice (factor 0) is a subgradient of the convex forward function -/
theorem src_relu_subgradient_at_kink (g y : ℝ) :
    Gen.relu_backward g 0 = g * 0 ∧ Gen.relu_forward y ≥ Gen.relu_forward 0 + 0 * (y - 0) := src_relu_kink g y
theorem src_leaky_relu_vjp (s : ℝ) :
    SrcVJP (fun x => Gen.leaky_relu_forward x s) (fun g x => Gen.leaky_relu_backward g x s) (fun x => x ≠ 0) := src_leaky_relu s
theorem src_selu_vjp (α s : ℝ) (hα : 0 < α) :
    SrcVJP (fun x => Gen.selu_forward x α s) (fun g x => Gen.selu_backward g x α s) (fun x => x ≠ 0) := src_selu α s hα
theorem src_tanh_vjp : SrcVJP Gen.tanh_forward (fun g x => Gen.tanh_backward g (Gen.tanh_forward x)) (fun _ => True) := src_tanh
theorem src_sigmoid_vjp : SrcVJP Gen.sigmoid_forward (fun g x => Gen.sigmoid_backward g (Gen.sigmoid_forward x)) (fun _ => True) := src_sigmoid
/-- squared error in the prediction (the wrapper hands the negated array to the target) -/
theorem src_mse_vjp (t : ℝ) : SrcVJP (fun p => Gen.mse_loss_forward p t) (fun g p => Gen.mse_loss_backward g p t) (fun _ => True) := src_mse t
/-- binary cross-entropy off its clamp level and where both logarithms are taken of non-zero numbers -/
theorem src_bce_vjp (t : ℝ) : SrcVJP (fun p => Gen.bce_loss_forward p t) (fun g p => Gen.bce_loss_backward g p t)
    (fun p => p + (epsilon : ℝ) ≠ 0 ∧ 1 - p + (epsilon : ℝ) ≠ 0 ∧
      -(t * Real.log (p + (epsilon : ℝ)) + (1 - t) * Real.log (1 - p + (epsilon : ℝ))) ≠ -(Real.log (epsilon : ℝ))) := src_bce t
/-- binary cross-entropy with logits: forward has the stated derivative everywhere; the source keeps an `ε` in one denominator
    of backward, so its result is within `|g|·ε` of `g ·` that derivative (a bounded deviation, stated, not hidden) -/
theorem src_bce_logits_vjp_within_eps (x y : ℝ) :
    HasDerivAt (fun v => Gen.bce_with_logits_loss_forward v y) ((1 - y) - 1 / (1 + Real.exp x)) x ∧
    ∀ g, |Gen.bce_with_logits_loss_backward g x y - g * ((1 - y) - 1 / (1 + Real.exp x))| ≤ |g| * (epsilon : ℝ) := src_bce_logits x y

/-- the constants `nn.functional.selu` passes meet the hypothesis of `src_selu_vjp` -/
example : 0 < (seluAlpha : ℝ) := Proofs.Calc.seluAlpha_pos

/-! ### the model kernels apply the source's formulas element by element -/
theorem model_applies_src_relu (a g : NDArray ℝ) : reluForward a = a.map Gen.relu_forward ∧ reluBackward g a = zipSame Gen.relu_backward g a := lift_relu a g
theorem model_applies_src_leaky_relu (a g : NDArray ℝ) (s : ℝ) : leakyReluForward a s = a.map (fun x => Gen.leaky_relu_forward x s) ∧
    leakyReluBackward g a s = zipSame (fun gv x => Gen.leaky_relu_backward gv x s) g a := lift_leaky_relu a g s
theorem model_applies_src_selu (a g : NDArray ℝ) (α s : ℝ) : seluForward a α s = a.map (fun x => Gen.selu_forward x α s) ∧
    seluBackward g a α s = zipSame (fun gv x => Gen.selu_backward gv x α s) g a := lift_selu a g α s
theorem model_applies_src_tanh (a g o : NDArray ℝ) : tanhForward a = a.map Gen.tanh_forward ∧ tanhBackward g o = zipSame Gen.tanh_backward g o := lift_tanh a g o
theorem model_applies_src_sigmoid (a g o : NDArray ℝ) : sigmoidForward a = a.map Gen.sigmoid_forward ∧
    sigmoidBackward g o = zipSame Gen.sigmoid_backward g o := lift_sigmoid a g o
theorem model_applies_src_mse (p t : NDArray ℝ) :
    mseForward p t = if p.shape = t.shape then some (zipSame Gen.mse_loss_forward p t) else none := lift_mse p t
/-- the scalars with which `bce_vjp` / `bce_logits_vjp` (`Props/C02.lean`, about the model arrays) are stated are the source's formulas -/
theorem model_scalars_are_src_bce (g p t : ℝ) :
    Gen.bce_loss_forward p t = bceScalar p t ∧ Gen.bce_loss_backward g p t = bceFactor p t * g ∧
    Gen.bce_with_logits_loss_forward p t = bceLogitsScalar p t ∧ Gen.bce_with_logits_loss_backward g p t = g * bceLogitsFactor p t :=
  ⟨gen_bce_forward p t, gen_bce_backward g p t, gen_bce_logits_forward p t, gen_bce_logits_backward g p t⟩

end Props.C02
