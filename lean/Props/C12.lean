import Proofs.ModulesLemmas
import Proofs.AssocList
import Std.Data.String.ToNat
/-!
# C12 — Module trees report each parameter once and propagate mode to all descendants

Statements about `Synap.Modules` (the model of synapgrad/nn/modules.py), for every world of
modules and parameters (any tree shape, any sharing, any assignment history).  The statements about
reachability ("exactly the reachable parameters", "exactly the descendants") assume `WFW`: every
submodule has a smaller id than its parent, i.e. was created before it.
-/
namespace Props.C12
open Synap.Modules

/-- well-formed world: a submodule was created before its parent (no cycles) -/
def WFW (w : World) : Prop :=
  ∀ (m : Nat) (M : Mod), w.mods[m]? = some M → ∀ s ∈ M.subs, s.2 < m

/-- `Reach w m m'` : `m'` is `m` or a descendant of `m` through submodule registrations -/
inductive Reach (w : World) : Nat → Nat → Prop
  | refl (m : Nat) : Reach w m m
  | step {m k m' : Nat} {M : Mod} {n : String} :
      w.mods[m]? = some M → (n, k) ∈ M.subs → Reach w k m' → Reach w m m'

/-- `dedup` with its accumulator as an argument: the form on which the inductions go through -/
def dedupFrom (acc l : List Nat) : List Nat :=
  l.foldl (fun acc x => if acc.contains x then acc else acc ++ [x]) acc

theorem dedup_eq_dedupFrom (l : List Nat) : dedup l = dedupFrom [] l := rfl

theorem dedupFrom_nil (acc : List Nat) : dedupFrom acc [] = acc := rfl
theorem dedupFrom_cons (acc : List Nat) (x : Nat) (l : List Nat) :
    dedupFrom acc (x :: l) = dedupFrom (if x ∈ acc then acc else acc ++ [x]) l := by
  simp [dedupFrom]
theorem dedupFrom_append (acc l1 l2 : List Nat) : dedupFrom acc (l1 ++ l2) = dedupFrom (dedupFrom acc l1) l2 := by
  simp [dedupFrom]

theorem mem_dedupFrom (acc l : List Nat) (x : Nat) : x ∈ dedupFrom acc l ↔ x ∈ acc ∨ x ∈ l := by
  induction l generalizing acc with
  | nil => simp [dedupFrom_nil]
  | cons y l ih =>
    rw [dedupFrom_cons, ih]
    by_cases h : y ∈ acc
    · rw [if_pos h, List.mem_cons]
      exact ⟨Or.imp_right Or.inr, fun h' => h'.elim Or.inl (Or.elim · (· ▸ Or.inl h) Or.inr)⟩
    · rw [if_neg h, List.mem_append, List.mem_singleton, List.mem_cons, or_assoc]

theorem dedupFrom_nodup (acc l : List Nat) (h : acc.Nodup) : (dedupFrom acc l).Nodup := by
  induction l generalizing acc with
  | nil => exact h
  | cons y l ih =>
    rw [dedupFrom_cons]
    apply ih
    split
    · exact h
    · rename_i hy
      exact List.nodup_append.mpr ⟨h, (by simp), fun a ha b hb => by rw [List.mem_singleton.mp hb]; rintro rfl; exact hy ha⟩

theorem dedupFrom_dedupFrom (acc b l : List Nat) : dedupFrom acc (dedupFrom b l) = dedupFrom (dedupFrom acc b) l := by
  induction l generalizing b with
  | nil => rfl
  | cons y l ih =>
    rw [dedupFrom_cons, ih, dedupFrom_cons]
    split
    · rw [if_pos ((mem_dedupFrom _ _ _).2 (Or.inr ‹_›))]
    · rw [dedupFrom_append, dedupFrom_cons, dedupFrom_nil]

theorem dedupFrom_dedup (acc ys : List Nat) : dedupFrom acc (dedup ys) = dedupFrom acc ys := dedupFrom_dedupFrom acc [] ys

theorem mem_dedup (l : List Nat) (x : Nat) : x ∈ dedup l ↔ x ∈ l := by
  rw [dedup_eq_dedupFrom, mem_dedupFrom]; simp

theorem dedup_nodup (l : List Nat) : (dedup l).Nodup := dedupFrom_nodup _ _ List.nodup_nil

theorem dedupFrom_flatMap_dedup {α : Type} (g : α → List Nat) (l : List α) (acc : List Nat) :
    dedupFrom acc (l.flatMap (fun s => dedup (g s))) = dedupFrom acc (l.flatMap g) := by
  induction l generalizing acc with
  | nil => rfl
  | cons s l ih =>
    simp only [List.flatMap_cons, dedupFrom_append, dedupFrom_dedup, ih]

/-- **Registration order.** De-duplicating at every level (as the code does) equals keeping the
    first occurrence in the plain pre-order listing `own parameters, then each submodule in
    registration order`. -/
theorem parameters_eq_dedup_flat (w : World) (f m : Nat) :
    parameters w f m = dedup (paramsFlat w f m) := by
  induction f generalizing m with
  | zero => rfl
  | succ f ih =>
    simp only [parameters, paramsFlat]
    split
    · rfl
    · rename_i M _
      simp only [dedup_eq_dedupFrom, dedupFrom_append]
      have : (fun s : String × Nat => parameters w f s.2) = fun s => dedup (paramsFlat w f s.2) := by
        funext s; exact ih s.2
      rw [this, dedupFrom_flatMap_dedup (fun s : String × Nat => paramsFlat w f s.2)]

/-- **Each parameter once.** -/
theorem parameters_nodup (w : World) (f m : Nat) : (parameters w f m).Nodup :=
  parameters_eq_dedup_flat w f m ▸ dedup_nodup _

/-- the modules `train()`, `eval()` and `parameters()` visit from `m`, in visiting order (pre-order, with repetitions) -/
def descendants (w : World) : Nat → Nat → List Nat
  | 0, _ => []
  | f+1, m =>
    match w.mods[m]? with
    | none => []
    | some M => m :: M.subs.flatMap (fun s => descendants w f s.2)

theorem mem_descendants_iff (w : World) (hw : WFW w) (f m k : Nat) (hf : m < f) :
    k ∈ descendants w f m ↔ Reach w m k ∧ k < w.mods.length := by
  induction f generalizing m with
  | zero => omega
  | succ f ih =>
    simp only [descendants]
    cases hM : w.mods[m]? with
    | none =>
      refine ⟨fun h => (List.not_mem_nil h).elim, ?_⟩
      rintro ⟨hr, hk⟩
      cases hr with
      | refl => rw [List.getElem?_eq_getElem hk] at hM; cases hM
      | step h1 => rw [hM] at h1; cases h1
    | some M =>
      have hlt : ∀ s ∈ M.subs, s.2 < f := fun s hs => Nat.lt_of_lt_of_le (hw m M hM s hs) (Nat.le_of_lt_succ hf)
      rw [List.mem_cons, List.mem_flatMap]
      constructor
      · rintro (rfl | ⟨s, hs, hk⟩)
        · exact ⟨Reach.refl _, (List.getElem?_eq_some_iff.mp hM).1⟩
        · have := (ih s.2 (hlt s hs)).1 hk
          exact ⟨Reach.step hM hs this.1, this.2⟩
      · rintro ⟨hr, hk⟩
        cases hr with
        | refl => exact Or.inl rfl
        | step h1 hs hr' =>
          rw [hM] at h1; cases h1
          exact Or.inr ⟨_, hs, (ih _ (hlt _ hs)).2 ⟨hr', hk⟩⟩

theorem paramsFlat_eq (w : World) (f m : Nat) :
    paramsFlat w f m = (descendants w f m).flatMap fun k => (w.mods[k]?).elim [] (·.params.map (·.2)) := by
  induction f generalizing m with
  | zero => rfl
  | succ f ih =>
    simp only [paramsFlat, descendants]
    cases hM : w.mods[m]? with
    | none => rfl
    | some M => simp only [List.flatMap_cons, List.flatMap_assoc, ih, hM, Option.elim_some]

/-- **Completeness.** With enough fuel (`m < f`, which `fuelOf` guarantees for every existing
    module) a parameter is reported iff it is registered on `m` or on a descendant of `m`. -/
theorem mem_parameters_iff (w : World) (hw : WFW w) (f m p : Nat) (hf : m < f) :
    p ∈ parameters w f m ↔
      ∃ m' M, Reach w m m' ∧ w.mods[m']? = some M ∧ p ∈ M.params.map (·.2) := by
  rw [parameters_eq_dedup_flat, mem_dedup, paramsFlat_eq, List.mem_flatMap]
  constructor
  · rintro ⟨k, hk, hp⟩
    obtain ⟨hr, hlt⟩ := (mem_descendants_iff w hw f m k hf).1 hk
    refine ⟨k, w.mods[k], hr, List.getElem?_eq_getElem hlt, ?_⟩
    simpa only [List.getElem?_eq_getElem hlt, Option.elim_some] using hp
  · rintro ⟨k, M, hr, hM, hp⟩
    exact ⟨k, (mem_descendants_iff w hw f m k hf).2 ⟨hr, (List.getElem?_eq_some_iff.mp hM).1⟩, by simpa only [hM, Option.elim_some] using hp⟩

theorem sum_split (ps : List Par) :
    (ps.map (·.size)).sum = ((ps.filter (·.reqGrad)).map (·.size)).sum
      + ((ps.filter (!·.reqGrad)).map (·.size)).sum := by
  induction ps with
  | nil => rfl
  | cons a l ih =>
    rw [List.map_cons, List.sum_cons, ih, List.filter_cons, List.filter_cons]
    cases a.reqGrad
    · exact Nat.add_left_comm ..
    · exact (Nat.add_assoc ..).symm

/-- **num_params splits.** total = trainable + frozen. -/
theorem numParams_split (w : World) (m : Nat) :
    (numParams w m).1 = (numParams w m).2.1 + (numParams w m).2.2 := by
  simp only [numParams]
  exact sum_split _

theorem updMod_pars (w : World) (m : Nat) (f : Mod → Mod) : (updMod w m f).pars = w.pars := rfl

theorem odGet_nil (n : String) : odGet [] n = none := rfl
theorem odGet_cons (e : String × Nat) (d : List (String × Nat)) (n : String) :
    odGet (e :: d) n = if e.1 = n then some e.2 else odGet d n := by
  by_cases h : e.1 = n <;> simp [odGet, h]

theorem odPop_cons (e : String × Nat) (d : List (String × Nat)) (k : String) :
    odPop (e :: d) k = if e.1 = k then odPop d k else e :: odPop d k := by
  by_cases h : e.1 = k <;> simp [odPop, h]

theorem odGet_odPop (d : List (String × Nat)) (k n : String) :
    odGet (odPop d k) n = if n = k then none else odGet d n := by
  unfold odGet odPop
  rw [List.find?_filter]
  split
  · rename_i h; subst h
    rw [List.find?_eq_none.mpr (by simp)]; rfl
  · rename_i h
    congr 2; funext e
    by_cases he : e.1 = n <;> simp [he, h]

theorem odGet_odSet (d : List (String × Nat)) (k n : String) (v : Nat) :
    odGet (odSet d k v) n = if n = k then some v else odGet d n :=
  List.lookup_upsert (fun _ => v) _ (fun e => by simp) d n

theorem any_odPop_self (d : List (String × Nat)) (k : String) : (odPop d k).any (·.1 == k) = false := by
  simp [odPop]

theorem odSet_fresh {d : List (String × Nat)} {k : String} (v : Nat) (h : d.any (·.1 == k) = false) :
    odSet d k v = d ++ [(k, v)] := by
  rw [odSet, h]; rfl

/-- **Replacing an attribute replaces its registration**: after `setattr(m, name, v)` the name is
    registered exactly according to the kind of `v`, and every other name is untouched. -/
theorem setAttr_replaces (w : World) (m : Nat) (M : Mod) (name : String) (v : Val)
    (hM : w.mods[m]? = some M) :
    ∃ M', (setAttr w m name v).mods[m]? = some M' ∧
      odGet M'.subs name = (match v with | .mod k => some k | _ => none) ∧
      odGet M'.params name = (match v with | .par k => some k | _ => none) ∧
      (∀ n, n ≠ name → odGet M'.subs n = odGet M.subs n ∧ odGet M'.params n = odGet M.params n) ∧
      M'.training = M.training := by
  cases v <;>
    simp only [setAttr, regMod, regPar, updMod_getElem?, hM, Option.map_some, if_true] <;>
    exact ⟨_, rfl, by simp [odGet_odSet, odGet_odPop], by simp [odGet_odSet, odGet_odPop],
      fun n hn => by simp [odGet_odSet, odGet_odPop, hn], rfl⟩

def setFlag (v : Bool) (w : World) (k : Nat) : World := updMod w k (fun M => { M with training := v })

theorem setFlag_subs (v : Bool) (w : World) (k j : Nat) :
    ((setFlag v w k).mods[j]?).map Mod.subs = (w.mods[j]?).map Mod.subs :=
  updMod_keeps Mod.subs w k _ (by intro; rfl) j

theorem descendants_congr {w w' : World} (h : ∀ k : Nat, (w'.mods[k]?).map Mod.subs = (w.mods[k]?).map Mod.subs) (f m : Nat) :
    descendants w' f m = descendants w f m := by
  induction f generalizing m with
  | zero => rfl
  | succ f ih =>
    have := h m
    simp only [descendants]
    cases h1 : w'.mods[m]? <;> cases h2 : w.mods[m]? <;> simp only [h1, h2, Option.map_some, Option.map_none, reduceCtorEq, Option.some.injEq] at this
    · rfl
    · simp only [this, ih]

theorem setTraining_eq_foldl (v : Bool) (f : Nat) (w : World) (m : Nat) :
    setTraining v f w m = (descendants w f m).foldl (setFlag v) w := by
  induction f generalizing w m with
  | zero => rfl
  | succ f ih =>
    simp only [setTraining, descendants]
    cases hM : w.mods[m]? with
    | none => rfl
    | some M =>
      simp only [List.foldl_cons, List.foldl_flatMap]
      -- each submodule is visited in the world its elder siblings have written to; they wrote flags only, so it has the
      -- registries, hence the descendants, of `w`
      have key : ∀ (l : List (String × Nat)) (w1 : World), (∀ j : Nat, (w1.mods[j]?).map Mod.subs = (w.mods[j]?).map Mod.subs) →
          l.foldl (fun w s => setTraining v f w s.2) w1 = l.foldl (fun w' s => (descendants w f s.2).foldl (setFlag v) w') w1 := by
        intro l
        induction l with
        | nil => intro _ _; rfl
        | cons s l ihl =>
          intro w1 h1
          rw [List.foldl_cons, ih, descendants_congr h1]
          exact ihl _ fun j => (foldl_preserves (fun w : World => (w.mods[j]?).map Mod.subs) _ (fun w k => setFlag_subs v w k j) _ w1).trans (h1 j)
      exact key M.subs _ (setFlag_subs v w m)

theorem foldl_setFlag (v : Bool) (ks : List Nat) (w : World) (k : Nat) :
    (ks.foldl (setFlag v) w).mods[k]? = (w.mods[k]?).map (fun K => if k ∈ ks then { K with training := v } else K) :=
  foldl_upd (fun (w : World) k => w.mods[k]?) (setFlag v) (fun K => { K with training := v }) (fun _ => rfl)
    (fun w j k => updMod_getElem? w j _ k) ks w k

/-- `setTraining` changes nothing but `training` flags -/
theorem setTraining_frame (v : Bool) (f : Nat) (w : World) (m k : Nat) :
    (setTraining v f w m).pars = w.pars ∧
    (setTraining v f w m).mods.length = w.mods.length ∧
    ∀ K, w.mods[k]? = some K → ∃ K', (setTraining v f w m).mods[k]? = some K' ∧
      K'.subs = K.subs ∧ K'.params = K.params ∧ (K'.training = K.training ∨ K'.training = v) := by
  rw [setTraining_eq_foldl]
  refine ⟨foldl_preserves World.pars (setFlag v) (fun _ _ => rfl) _ w, foldl_preserves (·.mods.length) (setFlag v) (fun w j => updMod_length w j _) _ w,
    fun K hK => ⟨_, by rw [foldl_setFlag, hK]; rfl, ?_⟩⟩
  split
  · exact ⟨rfl, rfl, Or.inr rfl⟩
  · exact ⟨rfl, rfl, Or.inl rfl⟩

/-- **train()/eval() reach every descendant** (and nothing that is not a descendant). -/
theorem setTraining_reaches (v : Bool) (w : World) (hw : WFW w) (f m : Nat) (hf : m < f) (k : Nat)
    (K : Mod) (hK : w.mods[k]? = some K) (hm : m < w.mods.length) :
    ∃ K', (setTraining v f w m).mods[k]? = some K' ∧
      (Reach w m k → K'.training = v) ∧ (¬ Reach w m k → K'.training = K.training) := by
  -- holds for any `m` (outside the world nothing is reachable and nothing is visited): `hm` is not used
  have hk : k < w.mods.length := (List.getElem?_eq_some_iff.mp hK).1
  rw [setTraining_eq_foldl, foldl_setFlag, hK]
  refine ⟨_, rfl, fun hr => ?_, fun hr => ?_⟩
  · exact congrArg Mod.training (if_pos ((mem_descendants_iff w hw f m k hf).2 ⟨hr, hk⟩))
  · exact congrArg Mod.training (if_neg (fun h => hr ((mem_descendants_iff w hw f m k hf).1 h).1))

theorem seqDict_fold (m : Nat) (ks : List (String × Nat)) (w1 : World) (M : Mod) (hM : w1.mods[m]? = some M)
    (hnd : ((M.subs ++ ks).map (·.1)).Nodup) :
    ∃ M' : Mod, (ks.foldl (fun w (x : String × Nat) => regMod w m x.1 x.2) w1).mods[m]? = some M' ∧ M'.subs = M.subs ++ ks := by
  induction ks generalizing w1 M with
  | nil => exact ⟨M, hM, (List.append_nil _).symm⟩
  | cons e ks ih =>
    have hfresh : M.subs.any (·.1 == e.1) = false := List.any_eq_false.mpr fun e' he' h =>
      (List.nodup_append.mp (List.map_append ▸ hnd)).2.2 e'.1 (List.mem_map_of_mem he') e.1 List.mem_cons_self (eq_of_beq h)
    have h1 : (regMod w1 m e.1 e.2).mods[m]? =
        some { M with params := odPop M.params e.1, subs := M.subs ++ [e] } := by
      rw [regMod, updMod_getElem?, hM, Option.map_some, if_pos rfl, odSet_fresh _ hfresh]
    obtain ⟨M', hM', hsubs⟩ := ih _ _ h1 (by rwa [List.append_assoc])
    exact ⟨M', hM', hsubs.trans (List.append_assoc ..)⟩

/-- `Sequential(OrderedDict)` applies the dictionary's values in insertion order -/
theorem sequentialDict_order (w : World) (ks : List (String × Nat)) (hk : (ks.map (·.1)).Nodup) :
    applyOrder (sequentialDict w ks).1 (sequentialDict w ks).2 = ks.map (·.2) := by
  obtain ⟨M', hM', hsubs⟩ := seqDict_fold (newMod w).2 ks (newMod w).1 ⟨[], [], true⟩ List.getElem?_concat_length hk
  have : (sequentialDict w ks).1.mods[(sequentialDict w ks).2]? = some M' := hM'
  rw [applyOrder, this]
  exact congrArg (List.map (·.2)) hsubs

theorem sequential_eq_dict (w : World) (ks : List Nat) :
    sequential w ks = sequentialDict w (ks.zipIdx.map fun x => (toString x.2, x.1)) := by
  simp only [sequential, sequentialDict, List.foldl_map]

/-- **Sequential applies its submodules in registration (argument) order.** -/
theorem sequential_order (w : World) (ks : List Nat) :
    applyOrder (sequential w ks).1 (sequential w ks).2 = ks := by
  rw [sequential_eq_dict, sequentialDict_order, List.map_map]
  · exact List.zipIdx_map_fst 0 ks
  -- the names are distinct because the decimal representation is injective
  · rw [List.map_map, show ((fun x : String × Nat => x.1) ∘ fun x : Nat × Nat => (toString x.2, x.1)) = toString ∘ Prod.snd from rfl,
      ← List.map_map, List.zipIdx_map_snd]
    exact List.Pairwise.map _ (fun a b h e => h (Nat.repr_injective e)) List.nodup_range'

/-- **A member (re)assigned by `setattr` runs last**: assignment drops the name's registration and registers anew, so the
    container applies the remaining members in their old order and then the new one — whatever the name looks like (a
    numeric key such as `"3"` of a positional Sequential included: the slot is NOT kept, and the keys are never re-sorted). -/
theorem applyOrder_setAttr_mod (w : World) (m : Nat) (M : Mod) (name : String) (k : Nat)
    (hM : w.mods[m]? = some M) :
    applyOrder (setAttr w m name (.mod k)) m = (odPop M.subs name).map (·.2) ++ [k] := by
  simp only [applyOrder, setAttr, regMod, updMod_getElem?, hM, Option.map_some, if_true, odSet_fresh _ (any_odPop_self ..),
    List.map_append, List.map_cons, List.map_nil]

/-- **A member removed by assignment of `None` / a plain value / a parameter** leaves the others in their order. -/
theorem applyOrder_setAttr_other (w : World) (m : Nat) (M : Mod) (name : String)
    (hM : w.mods[m]? = some M) :
    applyOrder (setAttr w m name .other) m = (odPop M.subs name).map (·.2) := by
  simp only [applyOrder, setAttr, updMod_getElem?, hM, Option.map_some, if_true]

theorem applyOrder_setAttr_par (w : World) (m : Nat) (M : Mod) (name : String) (p : Nat)
    (hM : w.mods[m]? = some M) :
    applyOrder (setAttr w m name (.par p)) m = (odPop M.subs name).map (·.2) := by
  simp only [applyOrder, setAttr, regPar, updMod_getElem?, hM, Option.map_some, if_true]
  simp [odPop]

/-- **`register_module` over an existing key keeps the slot** (the entry is replaced where it stands); a new key is appended. -/
theorem applyOrder_regMod (w : World) (m : Nat) (M : Mod) (name : String) (k : Nat)
    (hM : w.mods[m]? = some M) :
    applyOrder (regMod w m name k) m =
      if M.subs.any (·.1 == name) then M.subs.map (fun e => if e.1 = name then k else e.2)
      else M.subs.map (·.2) ++ [k] := by
  simp only [applyOrder, regMod, updMod_getElem?, hM, Option.map_some, if_true, odSet]
  cases M.subs.any (·.1 == name)
  · simp only [Bool.false_eq_true, if_false, List.map_append, List.map_cons, List.map_nil]
  · simp only [if_true, List.map_map]
    refine List.map_congr_left fun e _ => ?_
    simp only [Function.comp, beq_iff_eq]
    split <;> rfl

theorem foldl_updPar (f : Par → Par) (hf : ∀ P, f (f P) = f P) (ps : List Nat) (w : World) :
    (ps.foldl (fun w p => updPar w p f) w).mods = w.mods ∧
    ∀ k, (ps.foldl (fun w p => updPar w p f) w).pars[k]? = (w.pars[k]?).map (fun P => if k ∈ ps then f P else P) :=
  ⟨foldl_preserves World.mods _ (fun w p => updPar_mods w p f) ps w,
    foldl_upd (fun (w : World) k => w.pars[k]?) _ f hf (fun w p k => updPar_getElem? w p f k) ps w⟩

/-- **`Module.zero_grad()` acts on exactly the trainable parameters `parameters()` lists**: each of them gets a zero gradient,
    every other parameter of the world — frozen ones, parameters of other modules, also a parameter that was given the SAME
    gradient values (`q.grad = p.grad`) — keeps what it had; no module changes. -/
theorem zeroGrad_exact (w : World) (m : Nat) :
    (zeroGrad w m).mods = w.mods ∧
    ∀ k, (zeroGrad w m).pars[k]? = (w.pars[k]?).map (fun P =>
      if k ∈ parameters w (fuelOf w) m ∧ P.reqGrad = true then { P with hasGrad := true, gval := some 0 } else P) := by
  obtain ⟨h1, h2⟩ := foldl_updPar (fun P => if P.reqGrad then { P with hasGrad := true, gval := some 0 } else P)
    (fun P => by cases h : P.reqGrad <;> simp [h]) (parameters w (fuelOf w) m) w
  refine ⟨h1, fun k => ?_⟩
  rw [zeroGrad, h2 k]
  congr 1; funext P
  by_cases hk : k ∈ parameters w (fuelOf w) m <;> simp [hk]

/-- **`freeze()` / `unfreeze()` set the flag of exactly the parameters `parameters()` lists** and touch nothing else -/
theorem setReqGrad_exact (v : Bool) (w : World) (m : Nat) :
    (setReqGrad v w m).mods = w.mods ∧
    ∀ k, (setReqGrad v w m).pars[k]? = (w.pars[k]?).map (fun P =>
      if k ∈ parameters w (fuelOf w) m then { P with reqGrad := v } else P) := by
  obtain ⟨h1, h2⟩ := foldl_updPar (fun P => { P with reqGrad := v }) (fun _ => rfl) (parameters w (fuelOf w) m) w
  exact ⟨h1, fun k => by rw [setReqGrad, h2 k]⟩

/-- **A parameter made from an existing one** (`Parameter(t)`, `dec.w = Parameter(enc.w)`) **is a new object** under a fresh id
    that starts as a copy of its source ... -/
theorem wrapPar_spec (w : World) (p : Nat) (P : Par) (h : w.pars[p]? = some P) :
    wrapPar w p = ({ w with pars := w.pars ++ [P] }, some w.pars.length) := by
  simp [wrapPar, h]

/-- ... and leaves every existing parameter (its source included) and every module as they are. -/
theorem wrapPar_frame (w : World) (p k : Nat) (hk : k < w.pars.length) :
    (wrapPar w p).1.pars[k]? = w.pars[k]? ∧ (wrapPar w p).1.mods = w.mods := by
  unfold wrapPar
  cases w.pars[p]? with
  | none => exact ⟨rfl, rfl⟩
  | some P => exact ⟨List.getElem?_append_left hk, rfl⟩

/-- **freeze / unfreeze on a node leave every parameter outside its `parameters()` alone** — the source of a wrapped copy, a copy
    registered in another subtree -/
theorem setReqGrad_other (v : Bool) (w : World) (m k : Nat) (h : k ∉ parameters w (fuelOf w) m) :
    (setReqGrad v w m).pars[k]? = w.pars[k]? := by
  rw [(setReqGrad_exact v w m).2 k]
  simp only [if_neg h, Option.map_id']

/-- the same for `zero_grad` -/
theorem zeroGrad_other (w : World) (m k : Nat) (h : k ∉ parameters w (fuelOf w) m) :
    (zeroGrad w m).pars[k]? = w.pars[k]? := by
  rw [(zeroGrad_exact w m).2 k]
  simp only [h, false_and, if_false, Option.map_id']

/-- the setter on one parameter object changes that object only -/
theorem setParReqGrad_other (w : World) (p k : Nat) (v : Bool) (h : k ≠ p) :
    (setParReqGrad w p v).pars[k]? = w.pars[k]? := by
  rw [setParReqGrad, updPar_getElem?]
  simp only [if_neg h, Option.map_id']

theorem setAttr_frame (w : World) (m k : Nat) (name : String) (v : Val) (h : k ≠ m) :
    (setAttr w m name v).mods[k]? = w.mods[k]? := by
  cases v <;> simp only [setAttr, regMod, regPar, updMod_getElem?_ne _ _ h]

theorem regMod_frame (w : World) (m k : Nat) (name : String) (j : Nat) (h : k ≠ m) :
    (regMod w m name j).mods[k]? = w.mods[k]? :=
  updMod_getElem?_ne w _ h

/-- **A container depends on its own history only**: whatever is assigned to ANOTHER module — e.g. to a second container that was
    built from the same ordered dict — leaves its members and their order as they are (`setAttr_frame`: its whole record, the
    parameter registry and the mode included). -/
theorem applyOrder_setAttr_frame (w : World) (m k : Nat) (name : String) (v : Val) (h : k ≠ m) :
    applyOrder (setAttr w m name v) k = applyOrder w k := by
  rw [applyOrder, applyOrder, setAttr_frame w m k name v h]

theorem applyOrder_regMod_frame (w : World) (m k : Nat) (name : String) (j : Nat) (h : k ≠ m) :
    applyOrder (regMod w m name j) k = applyOrder w k := by
  rw [applyOrder, applyOrder, regMod_frame w m k name j h]

/-- **No operation on a collection of the caller reaches a module**: adding, removing, replacing, reordering or clearing entries of
    the dict / list changes that object only. -/
theorem updColl_frame (cw : CWorld) (i : Nat) (f : Coll → Coll) : (updColl cw i f).w = cw.w := rfl

/-- **The constructor copies**: `Sequential(d)` is `sequentialDict` on the entries `d` holds at that moment, `Sequential(*l)` is
    `sequential` on the members of `l`; the collection itself is left as it is. -/
theorem seqFrom_spec (cw : CWorld) (i : Nat) (c : Coll) (h : cw.colls[i]? = some c) :
    (seqFrom cw i).1.colls = cw.colls ∧
    ((seqFrom cw i).1.w, (seqFrom cw i).2) =
      if c.isDict then ((sequentialDict cw.w c.items).1, some (sequentialDict cw.w c.items).2)
      else ((sequential cw.w (c.items.map (·.2))).1, some (sequential cw.w (c.items.map (·.2))).2) := by
  simp only [seqFrom, h]
  cases c.isDict <;> simp

/-- … so a container built from a list applies the members the list held AT CONSTRUCTION, in that order, whatever the caller does
    to the list afterwards -/
theorem seqFrom_list_order_stable (cw : CWorld) (i : Nat) (c : Coll) (h : cw.colls[i]? = some c) (hd : c.isDict = false)
    (j : Nat) (f : Coll → Coll) (m : Nat) (hm : (seqFrom cw i).2 = some m) :
    applyOrder (updColl (seqFrom cw i).1 j f).w m = c.items.map (·.2) := by
  rw [updColl_frame]
  simp only [seqFrom, h, hd] at hm ⊢
  simp only [Option.some.injEq] at hm ⊢
  subst hm
  exact sequential_order cw.w _

/-- sharing: `m0.a = p0`, `m1.x = m1.y = m0`, `m1.z = p0` — one parameter reachable from `m1` on three paths -/
def w0 : World :=
  let (w, m0) := newMod World.empty
  let (w, p0) := newPar w 3 true
  let (w, m1) := newMod w
  let w := setAttr w m0 "a" (.par p0)
  let w := setAttr w m1 "x" (.mod m0)
  let w := setAttr w m1 "y" (.mod m0)
  setAttr w m1 "z" (.par p0)

example : parameters w0 (fuelOf w0) 1 = [0] := by decide +kernel
example : numParams w0 1 = (3, 3, 0) := by decide +kernel
example : (setTraining false (fuelOf w0) w0 1).mods.map (·.training) = [false, false] := by decide +kernel

/-- a 12-member positional container: keys "0" … "11" in registration order (not "0","1","10","11","2",…); replacing member "3" by
    assignment moves it to the end, `register_module("3", …)` keeps the slot -/
def w12 : World := (sequential (newMod (newMod World.empty).1).1 [0, 1, 0, 1, 0, 1, 0, 1, 0, 1, 0, 1]).1
example : (w12.mods[2]?.map (fun M => M.subs.map (·.1))) = some ["0", "1", "2", "3", "4", "5", "6", "7", "8", "9", "10", "11"] := by decide +kernel
example : applyOrder w12 2 = [0, 1, 0, 1, 0, 1, 0, 1, 0, 1, 0, 1] := by decide +kernel
example : applyOrder (setAttr w12 2 "3" (.mod 0)) 2 = [0, 1, 0, 0, 1, 0, 1, 0, 1, 0, 1, 0] := by decide +kernel
example : applyOrder (regMod w12 2 "3" 0) 2 = [0, 1, 0, 0, 0, 1, 0, 1, 0, 1, 0, 1] := by decide +kernel

/-- two containers built from ONE ordered dict of the caller, then an attribute of the second one replaced and the dict edited: the
    first container still applies what it was given -/
def cw2 : CWorld :=
  let w := (newMod (newMod (newMod World.empty).1).1).1          -- m0 m1 m2
  let (cw, d) := newColl { w := w } ⟨true, [("fc", 0), ("act", 1), ("out", 0)]⟩
  let cw := (seqFrom cw d).1                                      -- m3
  let cw := (seqFrom cw d).1                                      -- m4
  let cw := { cw with w := setAttr cw.w 4 "out" (.mod 2) }
  updColl cw d (fun c => (c.put "extra" 2).del "fc")
example : applyOrder cw2.w 3 = [0, 1, 0] := by decide +kernel
example : applyOrder cw2.w 4 = [0, 1, 2] := by decide +kernel
example : cw2.colls.map (·.items) = [[("act", 1), ("out", 0), ("extra", 2)]] := by decide +kernel

end Props.C12
