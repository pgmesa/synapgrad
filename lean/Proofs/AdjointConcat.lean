import Proofs.AdjointStack
/-!
# `concatenate` / `split`: the "shift along an axis" embedding and its transpose
-/
namespace Proofs.Adjoint
open Synap Synap.NDArray Synap.Np Synap.Kernels Proofs.Core

theorem modify_const_getD {α : Type} (f : α → α) (d : α) (l : List α) (a : Nat) :
    l.modify a (fun _ => f (l.getD a d)) = l.modify a f := by
  apply List.ext_getElem
  · rw [List.length_modify, List.length_modify]
  · intro i h1 _
    rw [List.length_modify] at h1
    rw [List.getElem_modify, List.getElem_modify]
    by_cases h : a = i
    · subst h
      rw [if_pos rfl, if_pos rfl, List.getD_eq_getElem?_getD, List.getElem?_eq_getElem h1, Option.getD_some]
    · rw [if_neg h, if_neg h]

theorem prefix_foldl (sizes pre : List Nat) (off : Nat) :
    (sizes.foldl (fun (acc : List Nat × Nat) n => (acc.1 ++ [acc.2], acc.2 + n)) (pre, off)).1
      = pre ++ (List.range sizes.length).map (fun i => off + (sizes.take i).sum) := by
  induction sizes generalizing pre off with
  | nil => exact (List.append_nil pre).symm
  | cons n r ih =>
    rw [List.foldl_cons, ih, List.length_cons, List.range_succ_eq_map, List.map_cons, List.map_map,
      List.append_assoc]
    exact congrArg (pre ++ off :: ·) (List.map_congr_left fun i _ => Nat.add_assoc off n _)

theorem sum_take_add_le {β : Type} (f : β → Nat) (l : List β) (k : Nat) (x : β) (hk : l[k]? = some x) :
    ((l.take k).map f).sum + f x ≤ (l.map f).sum := by
  obtain ⟨hkl, rfl⟩ := List.getElem?_eq_some_iff.1 hk
  conv_rhs => rw [← List.take_append_drop k l, List.map_append, List.sum_append, List.drop_eq_getElem_cons hkl,
    List.map_cons]
  exact Nat.add_le_add_left (Nat.le_add_right _ _) _

theorem concat_cons {α : Type} [Zero α] (x0 : NDArray α) (r : List (NDArray α)) (axis : Int) :
    concatenate (x0 :: r) axis = (normAxis x0.shape.length axis).bind (fun a =>
      if (x0 :: r).all (fun x => x.shape.length == x0.shape.length &&
          dropAxes x.shape [a] == dropAxes x0.shape [a]) then
        some (ofFn (x0.shape.modify a (fun _ => ((x0 :: r).map (fun x => x.shape.getD a 0)).sum))
          (fun j => concatenate.find a j (getI j a) (x0 :: r) 0))
      else none) := by
  simp only [← zipIdx_map_modify]
  show (normAxis x0.shape.length axis).bind _ = _
  cases normAxis x0.shape.length axis with
  | none => rfl
  | some a =>
    rw [Option.bind_some, Option.bind_some]
    cases (x0 :: r).all (fun x => x.shape.length == x0.shape.length &&
      dropAxes x.shape [a] == dropAxes x0.shape [a]) <;> rfl

/-- what acceptance implies: every operand shape is `insertAt r0 a0 ·` of one `r0`, the form in which
    `shift_place_adj` is stated -/
theorem concat_inv {α : Type} [Zero α] (xs : List (NDArray α)) (axis : Int) (y : NDArray α)
    (h : concatenate xs axis = some y) :
    ∃ r0 a0, xs ≠ [] ∧ a0 ≤ r0.length ∧ normAxis (r0.length + 1) axis = some a0 ∧
      (∀ x ∈ xs, x.shape = insertAt r0 a0 (x.shape.getD a0 0)) ∧
      y.shape = insertAt r0 a0 ((xs.map (fun x => x.shape.getD a0 0)).sum) := by
  cases xs with
  | nil => cases h
  | cons x0 r =>
    rw [concat_cons] at h
    obtain ⟨a0, hn, h⟩ := Option.bind_eq_some_iff.1 h
    have ha0 := SpecOps.normAxis_lt hn
    have hl0 := List.length_eraseIdx_add_one ha0
    have hle : a0 ≤ (x0.shape.eraseIdx a0).length := Nat.le_of_lt_succ (ha0.trans_eq hl0.symm)
    split_ifs at h with hall
    refine ⟨x0.shape.eraseIdx a0, a0, List.cons_ne_nil _ _, hle, by rw [hl0]; exact hn, ?_, ?_⟩
    · intro x hx
      have := List.all_eq_true.1 hall x hx
      simp only [Bool.and_eq_true, beq_iff_eq, dropAxes_single] at this
      rw [← this.2, insertAt_eraseIdx x.shape a0 0 (this.1 ▸ ha0)]
    · rw [← Option.some.inj h]
      conv_lhs => rw [← insertAt_eraseIdx x0.shape a0 0 ha0]
      exact modify_insertAt _ _ _ _ hle

theorem concat_some {α : Type} [Zero α] (xs : List (NDArray α)) (axis : Int) (r0 : Shape) (a0 total : Nat)
    (hne : xs ≠ []) (ha0 : a0 ≤ r0.length) (hn : normAxis (r0.length + 1) axis = some a0)
    (hall : ∀ x ∈ xs, x.shape = insertAt r0 a0 (x.shape.getD a0 0))
    (ht : (xs.map (fun x => x.shape.getD a0 0)).sum = total) :
    concatenate xs axis = some (ofFn (insertAt r0 a0 total)
      (fun j => concatenate.find a0 j (getI j a0) xs 0)) := by
  cases xs with
  | nil => exact absurd rfl hne
  | cons x0 r =>
    have h0 := hall x0 List.mem_cons_self
    have hl0 : x0.shape.length = r0.length + 1 := by rw [h0, length_insertAt]
    rw [concat_cons, hl0, hn, Option.bind_some, if_pos, ht]
    · rw [h0, modify_insertAt _ _ _ _ ha0]
    · rw [List.all_eq_true]
      intro x hx
      rw [hall x hx, h0, length_insertAt, dropAxes_single, dropAxes_single,
        eraseIdx_insertAt _ _ _ ha0, eraseIdx_insertAt _ _ _ ha0]
      exact Bool.and_eq_true_iff.2 ⟨beq_iff_eq.2 rfl, beq_iff_eq.2 rfl⟩

section Find
variable {α : Type} [Zero α]

theorem concatenate_find_zeros (a0 : Nat) (j : Idx) (t : Nat) (xs : List (NDArray α)) (off : Nat) :
    concatenate.find a0 j t (xs.map (fun x => (zeros x.shape : NDArray α))) off = 0 := by
  induction xs generalizing off with
  | nil => rfl
  | cons x r ih => rw [List.map_cons, concatenate.find, ih, get_zeros, ite_self]

theorem concatenate_find_set (a0 : Nat) (j : Idx) (t : Nat) (v : NDArray α) (xs : List (NDArray α)) (k off : Nat)
    (hk : k < xs.length) (hoff : off ≤ t) :
    concatenate.find a0 j t ((xs.map (fun x => (zeros x.shape : NDArray α))).set k v) off =
      if off + ((xs.take k).map (fun x => x.shape.getD a0 0)).sum ≤ t ∧
          t < off + ((xs.take k).map (fun x => x.shape.getD a0 0)).sum + v.shape.getD a0 0 then
        v.get (j.modify a0 fun _ => t - (off + ((xs.take k).map (fun x => x.shape.getD a0 0)).sum))
      else 0 := by
  induction xs generalizing k off with
  | nil => exact absurd hk (Nat.not_lt_zero _)
  | cons x r ih =>
    cases k with
    | zero =>
      rw [List.map_cons, List.set_cons_zero, concatenate.find, concatenate_find_zeros a0 j _ r, List.take_zero, List.map_nil,
        List.sum_nil, zipIdx_map_modify (fun _ => t - off) j a0]
      exact if_congr (iff_and_self.2 fun _ => hoff) rfl rfl
    | succ k =>
      rw [List.map_cons, List.set_cons_succ, concatenate.find, List.take_succ_cons, List.map_cons, List.sum_cons,
        ← Nat.add_assoc, get_zeros]
      by_cases hlt : t < off + x.shape.getD a0 0
      · exact (if_pos hlt).trans (if_neg fun h => Nat.not_le_of_lt hlt (Nat.le_of_add_right_le h.1)).symm
      · exact (if_neg hlt).trans (ih k (off + x.shape.getD a0 0) (Nat.lt_of_succ_lt_succ hk) (Nat.not_lt.1 hlt))
theorem concat_set_zeros (xs : List (NDArray α)) (axis : Int) (r0 : Shape) (a0 : Nat) (ha0 : a0 ≤ r0.length)
    (hn : normAxis (r0.length + 1) axis = some a0)
    (hall : ∀ x ∈ xs, x.shape = insertAt r0 a0 (x.shape.getD a0 0)) (k : Nat) (xk v : NDArray α)
    (hk : xs[k]? = some xk) (hv : v.shape = xk.shape) :
    concatenate ((xs.map (fun x => (zeros x.shape : NDArray α))).set k v) axis =
      some (ofFn (insertAt r0 a0 (xs.map (fun x => x.shape.getD a0 0)).sum) fun j =>
        if ((xs.take k).map (fun x => x.shape.getD a0 0)).sum ≤ getI j a0 ∧
            getI j a0 < ((xs.take k).map (fun x => x.shape.getD a0 0)).sum + xk.shape.getD a0 0 then
          v.get (j.modify a0 (· - ((xs.take k).map (fun x => x.shape.getD a0 0)).sum))
        else 0) := by
  have hkl : k < xs.length := (List.getElem?_eq_some_iff.1 hk).1
  refine (concat_some _ axis r0 a0 _ (set_zeros_ne_nil xs k v hkl) ha0 hn
    (forall_mem_set_zeros xs k v (fun s => s = insertAt r0 a0 (s.getD a0 0)) hall
      (hv ▸ hall xk (List.mem_of_getElem? hk)))
    (congrArg List.sum (map_set_zeros (·.getD a0 0) xs k xk v hk (by rw [hv])))).trans
    (congrArg (fun f => some (ofFn _ f)) (funext fun j => ?_))
  rw [concatenate_find_set a0 j _ v xs k 0 hkl (Nat.zero_le _), hv, Nat.zero_add]
  exact if_congr Iff.rfl (congrArg v.get (modify_const_getD (· - _) 0 j a0)) rfl

end Find

theorem concatBackward_get {α : Type} [Zero α] [One α] [Add α] [Mul α] [Neg α]
    (g : NDArray α) (xs : List (NDArray α)) (axis : Int) (r0 : Shape)
    (a0 total : Nat) (hgs : g.shape = insertAt r0 a0 total) (hn : normAxis (r0.length + 1) axis = some a0)
    (k : Nat) (xk : NDArray α) (hk : xs[k]? = some xk) :
    (concatBackward g (xs.map (·.shape)) axis).bind (·[k]?) =
      some (gather xk.shape
        (fun j => j.modify a0 (· + ((xs.take k).map (fun x => x.shape.getD a0 0)).sum)) g) := by
  have hkl : k < xs.length := (List.getElem?_eq_some_iff.1 hk).1
  simp only [concatBackward, hgs, length_insertAt, hn, Option.bind_eq_bind, Option.bind_some,
    Option.pure_def]
  rw [prefix_foldl, List.nil_append, List.getElem?_map]
  -- entry `k` of the zip is (shape of operand `k`, its offset); the pair is given as `(_, _)` so that its
  -- components unify with the two entries
  refine (congrArg (Option.map _) ((List.getElem?_zip_eq_some (z := (_, _))).2
    ⟨List.getElem?_map.trans (congrArg (Option.map _) hk), List.getElem?_map.trans (congrArg (Option.map _)
      (List.getElem?_range (by rwa [List.length_map, List.length_map])))⟩)).trans ?_
  simp only [Nat.zero_add, List.map_map, ← List.map_take]
  exact congrArg (fun φ => some (gather xk.shape φ g)) (funext fun j => zipIdx_map_modify (· + _) j a0)

/-- reading the window `[off, off + nk)` along axis `a0` and placing a block at offset `off` inside zeros
    are transposes: `concat` backward / forward -/
theorem shift_place_adj {R : Type} [CommSemiring R] (r0 : Shape) (a0 nk total off : Nat) (ha0 : a0 ≤ r0.length)
    (hoff : off + nk ≤ total) :
    IsAdjoint (R := R) (insertAt r0 a0 total) (insertAt r0 a0 nk)
      (fun g => some (gather (insertAt r0 a0 nk) (fun i => i.modify a0 (· + off)) g))
      (fun v => some (ofFn (insertAt r0 a0 total) fun j =>
        if off ≤ getI j a0 ∧ getI j a0 < off + nk then v.get (j.modify a0 (· - off)) else 0)) := by
  apply isAdjoint_of_embed_spec (insertAt r0 a0 total) (insertAt r0 a0 nk)
    (fun i => i.modify a0 (· + off)) (fun j => j.modify a0 (· - off))
    (fun j => off ≤ getI j a0 ∧ getI j a0 < off + nk)
  · intro i hi
    obtain ⟨q, t, rfl, hq, ht⟩ := (validIdx_insertAt_iff r0 a0 nk ha0 i).1 hi
    have hql : a0 ≤ q.length := by rw [validIdx_length _ _ hq]; exact ha0
    simp only [modify_insertAt _ _ _ _ hql, getI, getD_insertAt _ _ _ _ hql]
    have h1 : t + off < nk + off := Nat.add_lt_add_right ht off
    refine ⟨validIdx_insertAt r0 q a0 total (t + off) hq (h1.trans_le (Nat.add_comm off nk ▸ hoff)),
      ⟨Nat.le_add_left _ _, Nat.add_comm off nk ▸ h1⟩, ?_⟩
    rw [Nat.add_sub_cancel]
  · intro j hj hP
    obtain ⟨q, t, rfl, hq, ht⟩ := (validIdx_insertAt_iff r0 a0 total ha0 j).1 hj
    have hql : a0 ≤ q.length := by rw [validIdx_length _ _ hq]; exact ha0
    simp only [getI, getD_insertAt _ _ _ _ hql] at hP
    simp only [modify_insertAt _ _ _ _ hql]
    refine ⟨validIdx_insertAt r0 q a0 nk (t - off) hq (Nat.sub_lt_left_of_lt_add hP.1 hP.2), ?_⟩
    rw [Nat.sub_add_cancel hP.1]
  · intro g _ _
    exact ⟨_, rfl, gather_wf _ _ _, rfl, fun i hi => get_gather _ _ _ _ hi⟩
  · intro v _ _
    exact ⟨_, rfl, ofFn_wf _ _, rfl, fun j hj => get_ofFn _ _ _ hj⟩

end Proofs.Adjoint
