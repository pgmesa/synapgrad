import Proofs.AdjointGeneral
/-!
# Reshapes: `reshapeTo` between shapes of equal size is adjoint to the reshape back

plus the shape arithmetic of `resolveShape`, `squeezeAll`, `squeezeAxes`, and `squeezeForward` as a reshape.
-/
namespace Proofs.Adjoint
open Synap Synap.Np Synap.Kernels Proofs.Core

theorem get_reshapeTo {α : Type} [Zero α] (x : NDArray α) (s : Shape) (j i : Idx) (hj : validIdx s j)
    (hi : validIdx x.shape i) (h : ravel s j = ravel x.shape i) : (reshapeTo x s).get j = x.get i := by
  unfold reshapeTo
  rw [get_gather _ _ _ _ hj, h, unravel_ravel _ _ hi]

section
variable {R : Type} [CommSemiring R]

theorem reshapeTo_adj (s1 s2 : Shape) (hsz : Shape.size s1 = Shape.size s2) :
    IsAdjoint (R := R) s1 s2 (fun v => some (reshapeTo v s2)) (fun g => some (reshapeTo g s1)) := by
  have h21 : ∀ j, validIdx s2 j → ravel s2 j < Shape.size s1 := fun j hj => hsz ▸ ravel_lt s2 j hj
  have h12 : ∀ i, validIdx s1 i → ravel s1 i < Shape.size s2 := fun i hi => hsz ▸ ravel_lt s1 i hi
  apply isAdjoint_of_gather_bij s1 s2 (fun j => unravel s1 (ravel s2 j)) (fun i => unravel s2 (ravel s1 i))
  · intro j hj; exact (ravel_unravel s1 _ (h21 j hj)).1
  · intro i hi; exact (ravel_unravel s2 _ (h12 i hi)).1
  · intro j hj
    rw [(ravel_unravel s1 _ (h21 j hj)).2, unravel_ravel s2 j hj]
  · intro i hi
    rw [(ravel_unravel s2 _ (h12 i hi)).2, unravel_ravel s1 i hi]
  · intro v _ hvs; simp only [reshapeTo, hvs]
  · intro g _ hgs; simp only [reshapeTo, hgs]

theorem reshapeTo_shape (x : NDArray R) (s : Shape) : (reshapeTo x s).shape = s := rfl

theorem reshapeTo_self (x : NDArray R) (hx : x.WF) : reshapeTo x x.shape = x :=
  ext_get _ _ (gather_wf _ _ _) hx rfl fun i hi => get_reshapeTo x x.shape i i hi hi rfl

end

open Proofs.SpecOps

theorem size_map_fill (t : List Int) (c : Nat) :
    Shape.size (t.map (fun x => if x < 0 then c else x.toNat)) =
      c ^ (t.filter (fun x => decide (x < 0))).length *
        Shape.size ((t.filter (fun x => decide (x ≥ 0))).map Int.toNat) := by
  rw [size_eq_prod, size_eq_prod, List.prod_map_ite, List.map_const', List.prod_replicate,
    List.filter_congr (p := fun a => decide ¬a < 0) (q := fun x => decide (x ≥ 0))
      fun x _ => decide_eq_decide.2 Int.not_lt]

theorem resolveShape_size (sz : Nat) (t : List Int) (s : Shape) (h : resolveShape sz t = some s) :
    Shape.size s = sz := by
  rw [resolveShape_eq, Option.ite_none_right_eq_some] at h
  obtain ⟨hc, h⟩ := h
  cases h
  -- the holes contribute `(sz / p) ^ (number of holes)`: no hole, or one and `p ∣ sz`
  rw [size_map_fill]
  rcases hc.2 with ⟨h0, hp⟩ | ⟨h1, _, hdvd⟩
  · rw [h0, pow_zero, Nat.one_mul, hp]
  · rw [h1, pow_one]; exact Nat.div_mul_cancel hdvd

theorem size_filter_ne_one (s : Shape) : Shape.size (s.filter (fun x => decide (x ≠ 1))) = Shape.size s := by
  rw [size_eq_prod, size_eq_prod, ← List.prod_filter_bne_one s]
  exact congrArg List.prod (List.filter_congr fun x _ => by simp [bne, beq_eq_decide])

theorem size_maskFrom_drop (ax : List Nat) (l : Shape) (m : Nat)
    (H : ∀ i, i < l.length → (m + i) ∈ ax → l.getD i 0 = 1) :
    Shape.size (maskFrom 1 m ax false l) = Shape.size l := by
  induction l generalizing m with
  | nil => rfl
  | cons x l ih =>
    have H' : ∀ i, i < l.length → (m + 1 + i) ∈ ax → l.getD i 0 = 1 := fun i hi hm =>
      H (i + 1) (Nat.succ_lt_succ hi) (by rwa [Nat.add_assoc, Nat.add_comm 1] at hm)
    rw [maskFrom_cons]
    by_cases h : m ∈ ax
    · rw [if_pos h, if_neg Bool.false_ne_true, ih _ H', size_cons, show x = 1 from H 0 (Nat.succ_pos _) h,
        Nat.one_mul]
    · rw [if_neg h, size_cons, size_cons, ih _ H']

theorem size_dropAxes (s : Shape) (ax : List Nat) (H : ∀ k ∈ ax, s.getD k 0 = 1) :
    Shape.size (dropAxes s ax) = Shape.size s := by
  rw [dropAxes_eq_maskFrom s ax 1]
  apply size_maskFrom_drop
  intro i _ hm
  rw [Nat.zero_add] at hm
  exact H i hm

section
variable {R : Type} [CommRing R]

theorem squeezeAxes_of (v : NDArray R) (axes : List Int) (ax : List Nat)
    (h1 : normAxes v.shape.length axes = some ax) (h2 : ∀ k ∈ ax, v.shape.getD k 0 = 1) :
    squeezeAxes v axes = some (reshapeTo v (dropAxes v.shape ax)) := by
  obtain ⟨hr, hnd, rfl⟩ := (normAxes_iff _ axes ax).1 h1
  rw [squeezeAxes_eq, if_pos ⟨hr, hnd, h2⟩]

/-- an operation that, on operands of `a`'s shape, is guarded by a condition on the shape and then returns the
    operand or its reshape to one shape `T` of the same size: whatever it accepts is a reshape, the same for all -/
theorem reshape_of_closed {F : NDArray R → Option (NDArray R)} {C D : Prop} [Decidable C] [Decidable D] {T : Shape}
    (a y : NDArray R) (hT : D → Shape.size T = Shape.size a.shape)
    (e : ∀ v : NDArray R, v.shape = a.shape → F v = if C then some (if D then reshapeTo v T else v) else none)
    (h : F a = some y) :
    ∃ s', Shape.size s' = Shape.size a.shape ∧
      ∀ v : NDArray R, v.WF → v.shape = a.shape → F v = some (reshapeTo v s') := by
  rw [e a rfl, Option.ite_none_right_eq_some] at h
  by_cases hD : D
  · exact ⟨T, hT hD, fun v _ hvs => by rw [e v hvs, if_pos h.1, if_pos hD]⟩
  · exact ⟨a.shape, rfl, fun v hv hvs => by rw [e v hvs, if_pos h.1, if_neg hD, ← hvs, reshapeTo_self v hv]⟩

/-- whatever `squeezeForward` accepts is a reshape to a shape of the same size, and acceptance
    and target shape depend on the operand's shape only -/
theorem squeezeForward_inv (a y : NDArray R) (ax : Axes) (h : squeezeForward a ax = some y) :
    ∃ s', Shape.size s' = Shape.size a.shape ∧
      ∀ v : NDArray R, v.WF → v.shape = a.shape → squeezeForward v ax = some (reshapeTo v s') := by
  cases ax with
  | all =>
    exact reshape_of_closed (C := True) (D := a.shape.length > 0) a y (fun _ => size_filter_ne_one _)
      (fun v hvs => by rw [← hvs]; rfl) h
  | one k =>
    exact reshape_of_closed a y (fun h1 => size_dropAxes _ _ (List.forall_mem_singleton.2 h1))
      (fun v hvs => by rw [squeezeForward_one_eq, hvs]) h
  | many ks =>
    by_cases hl : a.shape.length = 0
    · refine ⟨a.shape, rfl, fun v hv hvs => ?_⟩
      rw [squeezeForward, hvs, if_pos hl, ← hvs, reshapeTo_self v hv]
    · exact reshape_of_closed a y (fun _ => size_dropAxes _ _ fun k hk => beq_iff_eq.1 (List.mem_filter.1 hk).2)
        (fun v hvs => by rw [squeezeForward_many_eq v ks (hvs ▸ hl), hvs]) h
end

end Proofs.Adjoint
