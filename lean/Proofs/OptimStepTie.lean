import SynapModel.Generated.OptimSteps
import Mathlib.Algebra.Field.Basic
/-!
# The optimizer steps in the source, as translated on this run, are the update functions of the model

`SynapModel/Generated/OptimSteps.lean` is rewritten from `/repo/synapgrad/optim/optimizers.py` by `harness/optim_formulas.py` on
every run: `Synap.Gen.sgd_step / adam_step / adamw_step` are the bodies of the per-parameter loops of `SGD.step`, `Adam.step`
and `AdamW.step` (after the guard that skips frozen parameters and parameters without gradient), for one element of one parameter.
They are `sgdUpdate` / `adamUpdate` of `SynapModel/Optim.lean`, the functions the trajectory theorems of C08 are about, for every
hyper-parameter value, flag combination and state, over any field.  The Boolean parameters of the generated functions are named
after the tests the source makes (`weight_decay != 0`, `momentum != 0`, `nesterov`, `maximize`), so a changed test changes the
signature and these statements stop elaborating.
-/
namespace Proofs.OptimStepTie
open Synap Synap.Optim

variable {α : Type} [Field α] [HasSqrt α]
set_option linter.unusedSectionVars false

theorem sgd_step_eq (c : SGDCfg α) (θ g : α) (buf : Option α) :
    Gen.sgd_step (dampening := c.dampening) (lr := c.lr) (momentum := c.momentum) (weight_decay := c.weightDecay)
      (maximize := c.maximize) (momentum_ne_0 := c.useMom) (nesterov := c.nesterov) (weight_decay_ne_0 := c.useWd) θ g buf
    = sgdUpdate c θ g buf := by
  unfold sgdUpdate
  -- the generated pair is (buffer, gradient), the model's (gradient, buffer): one split, then the same term
  cases c.useMom <;> rfl

theorem adam_step_eq (c : AdamCfg α) (hd : c.decoupled = false) (θ g : α) (mo : Moments α) :
    Gen.adam_step (beta1 := c.beta1) (beta2 := c.beta2) (epsilon := c.eps) (lr := c.lr) (weight_decay := c.weightDecay)
      (maximize := c.maximize) (weight_decay_ne_0 := c.useWd) θ g mo.m1 mo.m2 mo.t
    = ((adamUpdate c θ g mo).1, (adamUpdate c θ g mo).2.m1, (adamUpdate c θ g mo).2.m2, (adamUpdate c θ g mo).2.t) := by
  unfold adamUpdate
  rw [hd]
  rfl

theorem adamw_step_eq (c : AdamCfg α) (hd : c.decoupled = true) (θ g : α) (mo : Moments α) :
    Gen.adamw_step (beta1 := c.beta1) (beta2 := c.beta2) (epsilon := c.eps) (lr := c.lr) (weight_decay := c.weightDecay)
      (maximize := c.maximize) θ g mo.m1 mo.m2 mo.t
    = ((adamUpdate c θ g mo).1, (adamUpdate c θ g mo).2.m1, (adamUpdate c θ g mo).2.m2, (adamUpdate c θ g mo).2.t) := by
  unfold adamUpdate
  rw [hd]
  rfl

end Proofs.OptimStepTie
