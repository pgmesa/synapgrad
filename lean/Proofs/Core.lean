import SynapModel.Core.NDArray
import Mathlib.Algebra.BigOperators.Ring.Finset
/-!
# Core lemmas about shapes, row-major enumeration and arrays in index-function form

`get_ofFn` moves every kernel theorem to the level of index functions; `gather_scatter_adjoint`
is the one generic fact behind the vector-Jacobian products of all data-movement ops:
the adjoint of *gather by an index map φ* is *scatter-add by φ*.
-/
namespace Proofs.Core
open Synap Synap.NDArray

theorem size_nil : Shape.size ([] : Shape) = 1 := rfl
theorem size_cons (n : Nat) (s : Shape) : Shape.size (n :: s) = n * Shape.size s := rfl

theorem size_eq_prod (s : Shape) : Shape.size s = s.prod := List.prod_eq_foldr.symm

theorem getD_ne_zero_of_size_ne_zero (s : Shape) (h : Shape.size s ≠ 0) (k : Nat) (hk : k < s.length) : s.getD k 0 ≠ 0 :=
  fun e => h (by
    rw [size_eq_prod]
    exact List.prod_eq_zero (by rw [← e, List.getD_eq_getElem?_getD, List.getElem?_eq_getElem hk]; exact List.getElem_mem hk))

theorem length_allIdx (s : Shape) : (allIdx s).length = Shape.size s := by
  induction s with
  | nil => rfl
  | cons n s ih => simp [allIdx, ih, size_cons]

theorem validIdx_cons {n : Nat} {s : Shape} {q : Idx} (h : validIdx (n :: s) q) :
    ∃ a i, q = a :: i ∧ a < n ∧ validIdx s i := by
  cases q with
  | nil => exact h.elim
  | cons a i => exact ⟨a, i, rfl, h⟩

theorem mem_allIdx (s : Shape) (i : Idx) : i ∈ allIdx s ↔ validIdx s i := by
  induction s generalizing i with
  | nil => cases i <;> simp [allIdx, validIdx]
  | cons n s ih =>
    rw [allIdx, List.mem_flatMap]
    constructor
    · rintro ⟨a, ha, hi⟩
      obtain ⟨r, hr, rfl⟩ := List.mem_map.1 hi
      exact ⟨List.mem_range.1 ha, (ih r).1 hr⟩
    · intro h
      obtain ⟨a, r, rfl, ha, hr⟩ := validIdx_cons h
      exact ⟨a, List.mem_range.2 ha, List.mem_map_of_mem ((ih r).2 hr)⟩

theorem map_allIdx_congr {β : Type} (s : Shape) (f g : Idx → β) (h : ∀ i, validIdx s i → f i = g i) :
    (allIdx s).map f = (allIdx s).map g :=
  List.map_congr_left fun i hi => h i ((mem_allIdx s i).1 hi)

theorem sum_allIdx_congr {M : Type} [AddCommMonoid M] (s : Shape) (f g : Idx → M)
    (h : ∀ i, validIdx s i → f i = g i) : ((allIdx s).map f).sum = ((allIdx s).map g).sum :=
  congrArg List.sum (map_allIdx_congr s f g h)

theorem allIdx_nodup (s : Shape) : (allIdx s).Nodup := by
  induction s with
  | nil => simp [allIdx]
  | cons n s ih =>
    rw [allIdx, List.nodup_flatMap]
    refine ⟨fun a _ => ih.map (List.cons_injective), ?_⟩
    refine List.Pairwise.imp_of_mem ?_ (List.nodup_range (n := n))
    intro a b _ _ hab
    simp only [List.disjoint_left, List.mem_map]
    rintro x ⟨i, _, rfl⟩ ⟨k, _, hk⟩
    exact hab (List.cons.inj hk).1.symm

theorem validIdxB_iff (s : Shape) (i : Idx) : validIdxB s i = true ↔ validIdx s i := by
  induction s generalizing i with
  | nil => cases i <;> simp [validIdxB, validIdx]
  | cons n s ih =>
    cases i with
    | nil => exact ⟨Bool.noConfusion, False.elim⟩
    | cons a i => rw [validIdxB, validIdx, Bool.and_eq_true, decide_eq_true_iff, ih]

/-- a valid index is one that is entrywise below the shape: list facts about `Forall₂` apply -/
theorem validIdx_iff_forall₂ (s : Shape) (i : Idx) : validIdx s i ↔ List.Forall₂ (· < ·) i s := by
  induction s generalizing i with
  | nil => cases i <;> simp [validIdx]
  | cons n s ih => cases i <;> simp [validIdx, ih]

theorem validIdx_iff_getD (s : Shape) (i : Idx) :
    validIdx s i ↔ i.length = s.length ∧ ∀ k, k < s.length → i.getD k 0 < s.getD k 0 := by
  rw [validIdx_iff_forall₂, List.forall₂_iff_get]
  have e : ∀ (l : List Nat) k (hk : k < l.length), l.getD k 0 = l[k] := fun l k hk =>
    (List.getElem_eq_getD 0).symm
  refine and_congr_right fun hl => ⟨fun h k hk => ?_, fun h k h1 h2 => ?_⟩
  · rw [e _ _ hk, e _ _ (hl ▸ hk)]
    exact h k (hl ▸ hk) hk
  · have := h k h2
    rwa [e _ _ h1, e _ _ h2] at this

theorem validIdx_length (s : Shape) (i : Idx) (h : validIdx s i) : i.length = s.length :=
  ((validIdx_iff_forall₂ s i).1 h).length_eq

theorem validIdx_getD (s : Shape) (i : Idx) (a : Nat) (h : validIdx s i) (ha : a < s.length) :
    i.getD a 0 < s.getD a 0 := ((validIdx_iff_getD s i).1 h).2 a ha

theorem validIdx_concat {s : Shape} {m : Nat} {j : Idx} (h : validIdx (s ++ [m]) j) :
    ∃ body k, j = body ++ [k] ∧ validIdx s body ∧ k < m := by
  rw [validIdx_iff_forall₂] at h
  have h1 := List.forall₂_take_append j s [m] h
  have h2 := List.forall₂_drop_append j s [m] h
  rw [← validIdx_iff_forall₂] at h1
  generalize hr : List.drop s.length j = r at h2
  cases h2 with
  | cons hk hnil =>
    cases hnil
    exact ⟨_, _, hr ▸ (List.take_append_drop s.length j).symm, h1, hk⟩

theorem insertAt_eq_insertIdx {α : Type} (l : List α) (k : Nat) (v : α) (h : k ≤ l.length) :
    insertAt l k v = l.insertIdx k v := by
  induction l generalizing k with
  | nil =>
    cases Nat.le_zero.1 h
    rfl
  | cons x l ih =>
    cases k with
    | zero => rfl
    | succ k => exact congrArg (x :: ·) (ih k (Nat.le_of_succ_le_succ h))

theorem mul_add_lt_mul {a b n m : Nat} (ha : a < n) (hb : b < m) : a * m + b < n * m :=
  calc a * m + b < a * m + m := Nat.add_lt_add_left hb _
    _ = (a + 1) * m := (Nat.succ_mul a m).symm
    _ ≤ n * m := Nat.mul_le_mul_right m ha

theorem div_mod_lt_of_lt_mul {l lh lw : Nat} (h : l < lh * lw) : l / lw < lh ∧ l % lw < lw := by
  have hw : 0 < lw := Nat.pos_of_lt_mul_left h
  exact ⟨(Nat.div_lt_iff_lt_mul hw).2 h, Nat.mod_lt _ hw⟩

theorem div_mod_facts {a b k : Nat} (hb : b < k) : (a * k + b) / k = a ∧ (a * k + b) % k = b := by
  have hk : 0 < k := by omega
  constructor
  · rw [Nat.add_comm, Nat.add_mul_div_right _ _ hk, Nat.div_eq_of_lt hb, Nat.zero_add]
  · exact Nat.mul_add_mod_of_lt hb

theorem ravel_lt (s : Shape) (i : Idx) (h : validIdx s i) : ravel s i < Shape.size s := by
  rw [validIdx_iff_forall₂] at h
  induction h with
  | nil => exact Nat.one_pos
  | cons ha _ ih => exact mul_add_lt_mul ha ih

theorem getElem?_flatMap_range {β} (n P : Nat) (g : Nat → List β) (hg : ∀ a, (g a).length = P)
    (a r : Nat) (ha : a < n) (hr : r < P) :
    ((List.range n).flatMap g)[a * P + r]? = (g a)[r]? := by
  induction n with
  | zero => exact absurd ha (Nat.not_lt_zero _)
  | succ n ih =>
    rw [List.range_succ, List.flatMap_append]
    have hlen : ((List.range n).flatMap g).length = n * P := by simp [hg]
    by_cases h : a < n
    · rw [List.getElem?_append_left (hlen ▸ mul_add_lt_mul h hr), ih h]
    · cases Nat.le_antisymm (Nat.le_of_lt_succ ha) (Nat.not_lt.1 h)
      rw [List.getElem?_append_right (hlen ▸ Nat.le_add_right _ _), hlen, Nat.add_sub_cancel_left,
        List.flatMap_singleton]

theorem allIdx_ravel (s : Shape) (i : Idx) (h : validIdx s i) : (allIdx s)[ravel s i]? = some i := by
  rw [validIdx_iff_forall₂] at h
  induction h with
  | nil => rfl
  | @cons a n i s ha hi ih =>
    rw [allIdx, ravel, getElem?_flatMap_range n (Shape.size s) _
      (fun a => (List.length_map _).trans (length_allIdx s)) a _ ha
      (ravel_lt s i ((validIdx_iff_forall₂ s i).2 hi)), List.getElem?_map, ih]
    rfl

theorem unravel_ravel (s : Shape) (i : Idx) (h : validIdx s i) : unravel s (ravel s i) = i := by
  rw [validIdx_iff_forall₂] at h
  induction h with
  | nil => rfl
  | @cons a n i s ha hi ih =>
    have hr := ravel_lt s i ((validIdx_iff_forall₂ s i).2 hi)
    rw [ravel, unravel, (div_mod_facts hr).1, (div_mod_facts hr).2, ih]

theorem ravel_unravel (s : Shape) (k : Nat) (h : k < Shape.size s) :
    validIdx s (unravel s k) ∧ ravel s (unravel s k) = k := by
  induction s generalizing k with
  | nil => exact ⟨trivial, (Nat.lt_one_iff.1 h).symm⟩
  | cons n s ih =>
    rw [size_cons] at h
    obtain ⟨hd, hm⟩ := div_mod_lt_of_lt_mul h
    obtain ⟨h1, h2⟩ := ih (k % Shape.size s) hm
    refine ⟨⟨hd, h1⟩, ?_⟩
    rw [unravel, ravel, h2]
    exact Nat.div_add_mod' k (Shape.size s)

variable {α : Type}

theorem ofFn_shape (s : Shape) (f : Idx → α) : (ofFn s f).shape = s := rfl

theorem ofFn_wf (s : Shape) (f : Idx → α) : (ofFn s f).WF := by
  simp [WF, ofFn, length_allIdx]

theorem get_ofFn [Zero α] (s : Shape) (f : Idx → α) (i : Idx) (h : validIdx s i) : (ofFn s f).get i = f i := by
  simp [NDArray.get, ofFn, allIdx_ravel s i h]

theorem ext_get [Zero α] (x y : NDArray α) (hx : x.WF) (hy : y.WF) (hs : x.shape = y.shape)
    (h : ∀ i, validIdx x.shape i → x.get i = y.get i) : x = y := by
  obtain ⟨sx, dx⟩ := x
  obtain ⟨sy, dy⟩ := y
  cases hs
  refine congrArg _ (List.ext_getElem (hx.trans hy.symm) fun k h1 h2 => ?_)
  obtain ⟨hv, hr⟩ := ravel_unravel sx k (hx ▸ h1)
  have := h _ hv
  simp only [NDArray.get, hr] at this
  simpa [h1, h2] using this

theorem ofFn_get [Zero α] (x : NDArray α) (hx : x.WF) : ofFn x.shape x.get = x :=
  ext_get _ _ (ofFn_wf _ _) hx rfl (fun _ hi => get_ofFn _ _ _ hi)

theorem get_mem_data [Zero α] (x : NDArray α) (hx : x.WF) (i : Idx) (hi : validIdx x.shape i) :
    x.get i ∈ x.data := by
  unfold NDArray.get
  rw [List.getD_eq_getElem?_getD, List.getElem?_eq_getElem (by rw [hx]; exact ravel_lt _ _ hi)]
  exact List.getElem_mem _

theorem zeros_wf [Zero α] (s : Shape) : (zeros s : NDArray α).WF := ofFn_wf _ _

theorem get_zeros [Zero α] (s : Shape) (i : Idx) : (zeros s : NDArray α).get i = 0 := by
  simp only [zeros, full, ofFn, NDArray.get, List.getD_eq_getElem?_getD, List.getElem?_map]
  cases (allIdx s)[ravel s i]? <;> rfl

theorem get_gather [Zero α] (outShape : Shape) (φ : Idx → Idx) (x : NDArray α) (j : Idx) (h : validIdx outShape j) :
    (gather outShape φ x).get j = x.get (φ j) :=
  get_ofFn _ _ _ h

theorem get_scatterAdd [Zero α] [Add α] (inShape gShape : Shape) (φ : Idx → Idx) (g : NDArray α) (i : Idx)
    (h : validIdx inShape i) :
    (scatterAdd inShape gShape φ g).get i = (((allIdx gShape).filter (fun j => φ j == i)).map g.get).sum :=
  get_ofFn _ _ _ h

section Ring
variable {R : Type} [CommSemiring R]

theorem dot_eq_sum (x y : NDArray R) :
    dot x y = ((allIdx x.shape).map (fun i => x.get i * y.get i)).sum := rfl

theorem dot_comm (x y : NDArray R) (hs : x.shape = y.shape) : dot x y = dot y x := by
  simp only [dot, hs, mul_comm]

theorem dot_ofFn (s : Shape) (f : Idx → R) (y : NDArray R) :
    dot (ofFn s f) y = ((allIdx s).map (fun i => f i * y.get i)).sum := by
  rw [dot_eq_sum]
  exact sum_allIdx_congr s _ _ fun i hi => by rw [get_ofFn s f i hi]

/-- linearity of the pairing in its first argument, at the level of index functions: sums, and (`dot_ofFn_smul`) multiples -/
theorem dot_ofFn_add (s : Shape) (f g : Idx → R) (y : NDArray R) :
    dot (ofFn s (fun i => f i + g i)) y = dot (ofFn s f) y + dot (ofFn s g) y := by
  simp only [dot_ofFn, add_mul, List.sum_map_add]

theorem dot_ofFn_smul (s : Shape) (c : R) (f : Idx → R) (y : NDArray R) :
    dot (ofFn s (fun i => c * f i)) y = c * dot (ofFn s f) y := by
  simp only [dot_ofFn, mul_assoc, List.sum_map_mul_left]

theorem finset_gather_scatter_adjoint {ι κ : Type} [DecidableEq ι]
    (I : Finset ι) (J : Finset κ) (φ : κ → ι) (hφ : ∀ j ∈ J, φ j ∈ I)
    (x : ι → R) (g : κ → R) :
    ∑ j ∈ J, x (φ j) * g j = ∑ i ∈ I, x i * ∑ j ∈ J with φ j = i, g j := by
  rw [← Finset.sum_fiberwise_of_maps_to hφ]
  refine Finset.sum_congr rfl fun i _ => ?_
  rw [Finset.mul_sum]
  exact Finset.sum_congr rfl fun j hj => by rw [(Finset.mem_filter.1 hj).2]

/-- **Adjoint of gather is scatter-add.**  For any index map `φ` sending valid indices of the
    output shape to valid indices of the input shape:
    `⟪gather φ v, g⟫ = ⟪v, scatterAdd φ g⟫`. -/
theorem gather_scatter_adjoint (inShape outShape : Shape) (φ : Idx → Idx)
    (hφ : ∀ j, validIdx outShape j → validIdx inShape (φ j))
    (v g : NDArray R) (hv : v.shape = inShape) :
    dot (gather outShape φ v) g = dot v (scatterAdd inShape outShape φ g) := by
  subst hv
  rw [dot_comm v (scatterAdd v.shape outShape φ g) rfl, gather, scatterAdd, dot_ofFn, dot_ofFn,
    ← List.sum_toFinset _ (allIdx_nodup outShape), ← List.sum_toFinset _ (allIdx_nodup v.shape),
    finset_gather_scatter_adjoint (allIdx v.shape).toFinset (allIdx outShape).toFinset φ fun j hj => by
      rw [List.mem_toFinset, mem_allIdx] at hj ⊢
      exact hφ j hj]
  refine Finset.sum_congr rfl fun i _ => ?_
  rw [mul_comm, ← List.sum_toFinset _ ((allIdx_nodup outShape).filter _), List.toFinset_filter]
  simp only [beq_iff_eq]

theorem dot_basis [DecidableEq Idx] (s : Shape) (i : Idx) (hi : validIdx s i) (c : NDArray R) :
    dot (ofFn s (fun k => if k = i then 1 else 0)) c = c.get i := by
  rw [dot_ofFn, ← List.sum_toFinset _ (allIdx_nodup s)]
  simp only [ite_mul, one_mul, zero_mul]
  rw [Finset.sum_ite_eq', if_pos (List.mem_toFinset.2 ((mem_allIdx s i).2 hi))]

/-- non-degeneracy of the pairing: an array (of shape `s`, well-formed) that pairs to zero with
    every basis array is zero — so the adjoint identity determines the backward kernel uniquely -/
theorem dot_nondegenerate [DecidableEq (Idx)] (s : Shape) (y : NDArray R) (hy : y.WF) (hs : y.shape = s)
    (h : ∀ i, validIdx s i → dot (ofFn s (fun k => if k = i then 1 else 0)) y = 0) :
    y = zeros s := by
  subst hs
  refine ext_get _ _ hy (ofFn_wf _ _) rfl fun i hi => ?_
  rw [← dot_basis _ i hi, h i hi]
  exact (get_ofFn y.shape (fun _ => (0 : R)) i hi).symm

end Ring

/-- NumPy's rule for one aligned pair of sizes (the function `broadcastShapes` maps over the
    zipped padded shapes) -/
def bcRule : Nat × Nat → Option Nat := fun (x, y) =>
  if x = y then some x else if x = 1 then some y else if y = 1 then some x else none

theorem bcRule_eq (p : Nat × Nat) :
    bcRule p = if p.1 = p.2 ∨ p.1 = 1 ∨ p.2 = 1 then some (if p.1 = 1 then p.2 else p.1) else none := by
  obtain ⟨x, y⟩ := p
  show (if x = y then some x else if x = 1 then some y else if y = 1 then some x else none) = _
  by_cases h1 : x = y
  · subst h1
    rw [if_pos rfl, if_pos (.inl rfl), ite_self]
  · rw [if_neg h1]
    by_cases h2 : x = 1
    · rw [if_pos h2, if_pos (.inr (.inl h2)), if_pos h2]
    · rw [if_neg h2, if_neg h2]
      by_cases h3 : y = 1
      · rw [if_pos h3, if_pos (.inr (.inr h3))]
      · rw [if_neg h3, if_neg fun h => h.elim h1 fun h => h.elim h2 h3]

/-- what one operand size `x` must satisfy against the broadcast size `z` -/
def BcOK (x z : Nat) : Prop := z = x ∨ x = 1

theorem bcRule_ok {x y z : Nat} (h : bcRule (x, y) = some z) : BcOK x z ∧ BcOK y z := by
  rw [bcRule_eq, Option.ite_none_right_eq_some, Option.some.injEq] at h
  obtain ⟨hc, rfl⟩ := h
  show BcOK x (if x = 1 then y else x) ∧ BcOK y (if x = 1 then y else x)
  by_cases h1 : x = 1
  · rw [if_pos h1]
    exact ⟨.inr h1, .inl rfl⟩
  · rw [if_neg h1]
    exact ⟨.inl rfl, hc.elim .inl fun h => h.elim (absurd · h1) .inr⟩

theorem mapM_bcRule_forall₂ {pa pb s : List Nat} (hl : pa.length = pb.length)
    (h : (List.zip pa pb).mapM bcRule = some s) : List.Forall₂ BcOK pa s ∧ List.Forall₂ BcOK pb s := by
  induction pa generalizing pb s with
  | nil =>
    cases h
    cases List.length_eq_zero_iff.1 hl.symm
    exact ⟨.nil, .nil⟩
  | cons x pa ih =>
    cases pb with
    | nil => cases hl
    | cons y pb =>
      rw [List.zip_cons_cons, List.mapM_cons] at h
      simp only [Option.bind_eq_bind, Option.bind_eq_some_iff, Option.pure_def, Option.some.injEq] at h
      obtain ⟨z, hz, s', hm, rfl⟩ := h
      have ⟨h1, h2⟩ := ih (Nat.succ.inj hl) hm
      have ⟨k1, k2⟩ := bcRule_ok hz
      exact ⟨.cons k1 h1, .cons k2 h2⟩

theorem mapM_bcRule_absorb_left (p s : List Nat) (h : List.Forall₂ BcOK p s) :
    (List.zip s p).mapM bcRule = some s := by
  induction h with
  | nil => rfl
  | @cons x z p s hxz _ ih =>
    have : bcRule (z, x) = some z := by
      rw [bcRule_eq, if_pos (hxz.imp_right .inr)]
      exact congrArg some (ite_eq_right_iff.2 fun h1 => hxz.elim Eq.symm fun hx => hx.trans h1.symm)
    rw [List.zip_cons_cons, List.mapM_cons, ih, this]
    rfl

theorem broadcastShapes_eq (a b : Shape) :
    broadcastShapes a b =
      (List.zip (List.replicate (max a.length b.length - a.length) 1 ++ a)
        (List.replicate (max a.length b.length - b.length) 1 ++ b)).mapM bcRule := rfl

theorem broadcastShapes_inv (a b s : Shape) (h : broadcastShapes a b = some s) :
    s.length = max a.length b.length ∧
    List.Forall₂ BcOK (List.replicate (s.length - a.length) 1 ++ a) s ∧
    List.Forall₂ BcOK (List.replicate (s.length - b.length) 1 ++ b) s := by
  rw [broadcastShapes_eq] at h
  have len : ∀ c : Shape, c.length ≤ max a.length b.length →
      (List.replicate (max a.length b.length - c.length) 1 ++ c).length = max a.length b.length := fun c hc => by
    rw [List.length_append, List.length_replicate, Nat.sub_add_cancel hc]
  have la := len a (Nat.le_max_left _ _)
  have ⟨h1, h2⟩ := mapM_bcRule_forall₂ (la.trans (len b (Nat.le_max_right _ _)).symm) h
  rw [h1.length_eq.symm.trans la]
  exact ⟨rfl, h1, h2⟩

theorem zipWith_valid {a s : Shape} (h : List.Forall₂ BcOK a s) {j : Idx} (hj : List.Forall₂ (· < ·) j s) :
    List.Forall₂ (· < ·) (List.zipWith (fun n x => if n = 1 then 0 else x) a j) a := by
  induction h generalizing j with
  | nil => exact .nil
  | @cons n z a s hx _ ih =>
    cases hj with
    | @cons x _ j _ hxz hj =>
      refine .cons ?_ (ih hj)
      rcases hx with rfl | rfl
      · show (if z = 1 then 0 else x) < z
        split_ifs <;> [exact Nat.zero_lt_of_lt hxz; exact hxz]
      · exact Nat.zero_lt_one

/-- the leading `m` axes of the broadcast shape are dropped, the rest is matched entry by entry -/
theorem bcastIdx_valid_pad (a : Shape) (m : Nat) (s : Shape) (j : Idx)
    (h : List.Forall₂ BcOK (List.replicate m 1 ++ a) s) (hj : validIdx s j) : validIdx a (bcastIdx a j) := by
  have hl : j.length - a.length = m := by
    rw [validIdx_length s j hj, ← h.length_eq, List.length_append, List.length_replicate, Nat.add_sub_cancel]
  have ha := List.forall₂_drop m h
  rw [List.drop_left' List.length_replicate] at ha
  rw [validIdx_iff_forall₂] at hj ⊢
  unfold bcastIdx
  rw [hl]
  exact zipWith_valid ha (List.forall₂_drop m hj)

theorem bcastIdx_valid (a b s : Shape) (h : broadcastShapes a b = some s) (j : Idx) (hj : validIdx s j) :
    validIdx a (bcastIdx a j) ∧ validIdx b (bcastIdx b j) := by
  obtain ⟨-, h1, h2⟩ := broadcastShapes_inv a b s h
  exact ⟨bcastIdx_valid_pad a _ s j h1 hj, bcastIdx_valid_pad b _ s j h2 hj⟩

theorem broadcastShapes_self (a : Shape) : broadcastShapes a a = some a := by
  rw [broadcastShapes_eq]
  simpa using mapM_bcRule_absorb_left a a (List.forall₂_same.2 fun _ _ => .inl rfl)

theorem set_getD_self {α : Type} (l : List α) (k : Nat) {d : α} : l.set k (l.getD k d) = l := by
  by_cases hl : k < l.length
  · rw [List.getD_eq_getElem?_getD, List.getElem?_eq_getElem hl, Option.getD_some, List.set_getElem_self]
  · rw [List.set_eq_of_length_le (not_lt.1 hl)]

theorem getD_set_self {α : Type} (l : List α) (k : Nat) (t : α) (hl : k < l.length) {d : α} :
    (l.set k t).getD k d = t := by
  rw [List.getD_eq_getElem?_getD, List.getElem?_set_self hl, Option.getD_some]

theorem validIdx_set (s : Shape) (i : Idx) (ax t : Nat) (hi : validIdx s i) (ht : t < s.getD ax 0) :
    validIdx s (i.set ax t) := by
  rw [validIdx_iff_getD] at hi ⊢
  obtain ⟨hl, h⟩ := hi
  refine ⟨by simp [hl], fun k hk => ?_⟩
  by_cases hka : ax = k
  · subst hka
    rw [getD_set_self i ax t (hl ▸ hk)]
    exact ht
  · rw [List.getD_eq_getElem?_getD, List.getElem?_set_ne hka]
    exact h k hk

end Proofs.Core
