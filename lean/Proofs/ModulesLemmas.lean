import SynapModel.Modules
import Proofs.AssocList
/-!
# Lemmas about the world of `SynapModel/Modules.lean` that several property files use
-/
namespace Synap.Modules

theorem updMod_getElem? (w : World) (m : Nat) (f : Mod → Mod) (k : Nat) :
    (updMod w m f).mods[k]? = (w.mods[k]?).map (fun x => if k = m then f x else x) :=
  List.getElem?_zipIdx_map_ite _ _ _ _

theorem updMod_getElem?_ne (w : World) (f : Mod → Mod) {m k : Nat} (h : k ≠ m) : (updMod w m f).mods[k]? = w.mods[k]? := by
  rw [updMod_getElem?]
  simp only [if_neg h, Option.map_id']

theorem updMod_length (w : World) (m : Nat) (f : Mod → Mod) :
    (updMod w m f).mods.length = w.mods.length := by simp [updMod]

theorem updPar_getElem? (w : World) (p : Nat) (f : Par → Par) (k : Nat) :
    (updPar w p f).pars[k]? = (w.pars[k]?).map (fun P => if k = p then f P else P) :=
  List.getElem?_zipIdx_map_ite _ _ _ _

theorem updPar_mods (w : World) (p : Nat) (f : Par → Par) : (updPar w p f).mods = w.mods := rfl

theorem updMod_keeps {β : Type} (g : Mod → β) (w : World) (m : Nat) (f : Mod → Mod) (hf : ∀ M, g (f M) = g M) (k : Nat) :
    ((updMod w m f).mods[k]?).map g = (w.mods[k]?).map g := by
  rw [updMod_getElem?]
  cases w.mods[k]? with
  | none => rfl
  | some M => by_cases h : k = m <;> simp [h, hf]

theorem foldl_preserves {σ β γ : Type} (p : σ → γ) (g : σ → β → σ) (hg : ∀ s x, p (g s x) = p s) (l : List β) (s : σ) :
    p (l.foldl g s) = p s := by
  induction l generalizing s with
  | nil => rfl
  | cons x l ih => rw [List.foldl_cons, ih, hg]

/-- `get`/`upd` stand for `(·.mods[·]?)`/`updMod · · f` and `(·.pars[·]?)`/`updPar · · f`; `f` idempotent, so the list of
    positions may repeat (`descendants` does, under sharing) -/
theorem foldl_upd {σ β : Type} (get : σ → Nat → Option β) (upd : σ → Nat → σ) (f : β → β) (hf : ∀ x, f (f x) = f x)
    (h : ∀ s p k, get (upd s p) k = (get s k).map fun x => if k = p then f x else x) (ps : List Nat) (s : σ) (k : Nat) :
    get (ps.foldl upd s) k = (get s k).map fun x => if k ∈ ps then f x else x := by
  induction ps generalizing s with
  | nil => simp
  | cons p ps ih =>
    rw [List.foldl_cons, ih, h, Option.map_map]
    congr 1; funext x
    by_cases hp : k = p
    · simp [hp, hf]
    · simp [hp]

end Synap.Modules
