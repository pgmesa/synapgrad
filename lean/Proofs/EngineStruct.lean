import Proofs.EngineDfs
import Proofs.EngineSweep
/-!
# `Synap.Engine.backward` assembled from its two phases

On a root that requires grad, `backward` is the sweep of the reversed post-order from the graph the traversal leaves, with the
root gradient stored (`backward_eq`).  `TravFacts` and `SweepSpec` say what each phase guarantees; the results about the whole
call (order, each `grad_fn` once, frame, release rule, no leak of left-over buffers) are read off the two.  Everything is for an
arbitrary graph (any depth, width, fan-out, repeated operands) and an arbitrary gradient type `G` with an addition.  The
grad-mode contexts (`no_grad`, `retain_grads`) come last.
-/
namespace Proofs.Engine
open Synap.Engine

variable {G : Type}

/-- operands are created before results -/
def WFG (ns : Graph G) : Prop :=
  ∀ (v : Nat) (n : Node G), ns[v]? = some n → ∀ c ∈ n.children, c < v

/-- `Reach ns u v` : `v` is `u` or a descendant of `u` along `children` edges -/
inductive Reach (ns : Graph G) : Nat → Nat → Prop
  | refl (u : Nat) : Reach ns u u
  | step {u c v : Nat} {n : Node G} : ns[u]? = some n → c ∈ n.children → Reach ns c v → Reach ns u v

/-- `c` occurs strictly before `u` in `l` -/
def BeforeIn (l : List Nat) (c u : Nat) : Prop := ∃ l1 l2, l = l1 ++ u :: l2 ∧ c ∈ l1

/-- two graphs differ at most in gradient buffers -/
def SameSkeleton (ns ns' : Graph G) : Prop :=
  ns'.length = ns.length ∧ ∀ (v : Nat) (n : Node G), ns[v]? = some n → ∃ n', ns'[v]? = some n' ∧
    n'.children = n.children ∧ n'.reqGrad = n.reqGrad ∧ n'.back = n.back ∧ n'.retain = n.retain ∧ n'.zero = n.zero

/-- `v` is an operand of some node reachable from `root` -/
def ChildOfReach (ns : Graph G) (root v : Nat) : Prop :=
  ∃ u m, Reach ns root u ∧ ns[u]? = some m ∧ v ∈ m.children

theorem lt_of_get {ns : Graph G} {k : Nat} {n : Node G} (h : ns[k]? = some n) : k < ns.length :=
  (List.getElem?_eq_some_iff.mp h).1

theorem WFG.ch {ns : Graph G} (hw : WFG ns) : ∀ u c, c ∈ chOf ns u → c < u := by
  intro u c hc
  obtain ⟨n, hn, hcn⟩ := mem_chOf.mp hc
  exact hw u n hn c hcn

theorem WFG.of_skel {a b : Graph G} (h : Skel a b) (hw : WFG a) : WFG b := by
  intro v n hn c hc
  obtain ⟨n0, h0, hst⟩ := h.symm.get hn
  exact hw v n0 h0 c (by rw [children_of_strip hst]; exact hc)

theorem Reach.tail {ns : Graph G} {a u c : Nat} (h : Reach ns a u) (hc : c ∈ chOf ns u) : Reach ns a c := by
  induction h with
  | refl u =>
    obtain ⟨n, hn, hcn⟩ := mem_chOf.mp hc
    exact Reach.step hn hcn (Reach.refl c)
  | step hn hcn _ ih => exact Reach.step hn hcn (ih hc)

theorem Reach.le {ns : Graph G} (hw : WFG ns) {a v : Nat} (h : Reach ns a v) : v ≤ a := by
  induction h with
  | refl u => exact Nat.le_refl _
  | step hn hcn _ ih => have := hw _ _ hn _ hcn; omega

theorem Reach.closed {ns : Graph G} {S : Nat → Prop} (hS : ∀ u c, S u → c ∈ chOf ns u → S c) {a v : Nat}
    (h : Reach ns a v) (ha : S a) : S v := by
  induction h with
  | refl u => exact ha
  | step hn hcn _ ih => exact ih (hS _ _ ha (mem_chOf.mpr ⟨_, hn, hcn⟩))

theorem Reach.cases_child {ns : Graph G} {a k : Nat} (h : Reach ns a k) : a = k ∨ ChildOfReach ns a k := by
  induction h with
  | refl u => exact Or.inl rfl
  | @step u c v n hn hcn hr ih =>
    right
    rcases ih with rfl | ⟨w, m, hw, hm, hk⟩
    · exact ⟨u, n, Reach.refl u, hn, hcn⟩
    · exact ⟨w, m, Reach.step hn hcn hw, hm, hk⟩

theorem ChildOfReach.reach {ns : Graph G} {root v : Nat} (h : ChildOfReach ns root v) : Reach ns root v := by
  obtain ⟨u, m, hu, hm, hv⟩ := h
  exact hu.tail (mem_chOf.mpr ⟨m, hm, hv⟩)

theorem ChildOfReach.lt {ns : Graph G} (hw : WFG ns) {root v : Nat} (h : ChildOfReach ns root v) : v < root := by
  obtain ⟨u, m, hu, hm, hv⟩ := h
  have := hu.le hw
  have := hw u m hm v hv
  omega

theorem not_childOfReach_root {ns : Graph G} (hw : WFG ns) (root : Nat) :
    ¬ ChildOfReach ns root root := fun h => Nat.lt_irrefl _ (h.lt hw)

theorem Reach.of_skel {a b : Graph G} (h : Skel a b) {u v : Nat} (hr : Reach a u v) : Reach b u v := by
  induction hr with
  | refl u => exact Reach.refl u
  | @step u c v n hu hc _ ih =>
    obtain ⟨m, hm, hst⟩ := h.get hu
    exact Reach.step hm (by rw [children_of_strip hst]; exact hc) ih

theorem childOfReach_iff {ns : Graph G} (hw : WFG ns) {root v : Nat} :
    ChildOfReach ns root v ↔ Reach ns root v ∧ v ≠ root := by
  constructor
  · intro h; exact ⟨h.reach, by have := h.lt hw; omega⟩
  · rintro ⟨h, hne⟩
    rcases h.cases_child with e | h
    · exact absurd e.symm hne
    · exact h

theorem sameSkeleton_of_skel {a b : Graph G} (h : Skel a b) : SameSkeleton a b := by
  refine ⟨h.length.symm, ?_⟩
  intro v n hn
  obtain ⟨m, hm, hst⟩ := h.get hn
  exact ⟨m, hm, (strip_eq_iff _ _).mp hst⟩

theorem skel_of_sameSkeleton {a b : Graph G} (h : SameSkeleton a b) : Skel a b := by
  refine List.ext_getElem? fun k => ?_
  rw [List.getElem?_map, List.getElem?_map]
  cases ha : a[k]? with
  | none => rw [List.getElem?_eq_none_iff.mpr (h.1 ▸ List.getElem?_eq_none_iff.mp ha)]
  | some n =>
    obtain ⟨m, hm, hfields⟩ := h.2 k n ha
    rw [hm]
    exact congrArg some ((strip_eq_iff _ _).mpr hfields).symm

structure TravFacts (ns : Graph G) (root : Nat) : Prop where
  skel : Skel ns (traverse ns root).ns
  nodup : (traverse ns root).ordered.Nodup
  root_mem : root ∈ (traverse ns root).ordered
  mem_ord : ∀ v, v ∈ (traverse ns root).ordered ↔ Reach ns root v
  mem_vis : ∀ v, v ∈ (traverse ns root).visited ↔ Reach ns root v
  before : ∀ u ∈ (traverse ns root).ordered, ∀ c ∈ chOf ns u, Before (traverse ns root).ordered c u
  gi : GI ns (fun k => k ∈ (traverse ns root).visited ∧ k ≠ root) (traverse ns root).ns
  trlen : (traverse ns root).trace.length + 1 ≤ (traverse ns root).ordered.length
  zeros : ∀ e ∈ (traverse ns root).trace, ∃ c, e = TrEv.zero c
  topo : Topo (chOf ns) (traverse ns root).ordered.reverse

theorem traverse_skel (ns : Graph G) (root : Nat) : Skel ns (traverse ns root).ns :=
  visit_skel (ns.length + 1) root ⟨[], [], ns, []⟩

theorem traverse_grads_trace (ns : Graph G) (hw : WFG ns) (root : Nat) (hr : root < ns.length) :
    VisitPost ns root [] root ⟨[], [], ns, []⟩ (traverse ns root) :=
  visit_grads ns hw.ch root [] (ns.length + 1) root ⟨[], [], ns, []⟩ (Nat.lt_succ_of_lt hr) (Skel.refl _) (Nat.le_refl _)
    (fun k => by
      cases h : ns[k]? with
      | none => rfl
      | some n => exact congrArg some (if_neg (fun hX => hX.1.2 (List.mem_singleton.mp hX.1.1))).symm)
    (by simp [zs])

theorem traverse_get (ns : Graph G) (hw : WFG ns) (root : Nat) (hr : root < ns.length) (k : Nat) :
    (traverse ns root).ns[k]? =
      (ns[k]?).map (fun n => metNode n (k ∈ (traverse ns root).visited ∧ k ≠ root)) :=
  (traverse_grads_trace ns hw root hr).met k

/-- the root is not an operand of anything it reaches: the traversal leaves it as it was -/
theorem traverse_root (ns : Graph G) (hw : WFG ns) (root : Nat) (hr : root < ns.length) :
    (traverse ns root).ns[root]? = ns[root]? := by
  rw [traverse_get ns hw root hr root]
  cases ns[root]? with
  | none => rfl
  | some n => exact congrArg some (if_neg fun h => h.1.2 rfl)

theorem travFacts (ns : Graph G) (hw : WFG ns) (root : Nat) (hr : root < ns.length) : TravFacts ns root := by
  obtain ⟨hI, hroot, hM⟩ := visit_order ns hw.ch (Reach ns root) (fun u c hu hc => hu.tail hc)
    (ns.length + 1) root ⟨[], [], ns, []⟩ (Nat.lt_succ_of_lt hr) (Skel.refl _)
    ⟨fun _ h => (List.not_mem_nil h).elim, fun _ h => (List.not_mem_nil h).elim, trivial⟩
    (fun _ h => (List.not_mem_nil h).elim) (Reach.refl root)
  have hq := traverse_grads_trace ns hw root hr
  change DfsInv (chOf ns) (Reach ns root) (pr (traverse ns root)) at hI
  change root ∈ (traverse ns root).ordered at hroot
  change Mono ([], []) (pr (traverse ns root)) at hM
  obtain ⟨hov, hR, htopo⟩ := hI
  simp only [pr] at hov hR htopo
  have hbef := htopo.before
  -- nothing was gray at the start, so nothing is gray at the end
  have hvo : ∀ v, v ∈ (traverse ns root).visited → v ∈ (traverse ns root).ordered :=
    fun v hv => Decidable.byContradiction fun h => List.not_mem_nil (hM.2.2.2 v hv h).1
  have hord : ∀ v, v ∈ (traverse ns root).ordered ↔ Reach ns root v := by
    intro v
    constructor
    · intro h; exact hR v (hov v h)
    · intro h
      refine h.closed (S := fun x => x ∈ (traverse ns root).ordered) ?_ hroot
      intro u c hu hc
      obtain ⟨l1, l2, e, hc1⟩ := hbef u hu c hc
      rw [e]; exact List.mem_append_left _ hc1
  have hvis : ∀ v, v ∈ (traverse ns root).visited ↔ Reach ns root v :=
    fun v => ⟨hR v, fun h => hov v ((hord v).mpr h)⟩
  have hlen := (hq.ord 0 rfl).trans (Nat.add_zero _)
  refine ⟨traverse_skel ns root, (List.reverse_perm _).nodup_iff.mp htopo.nodup, hroot, hord, hvis, hbef, hq.met.gi, ?_, ?_, ?_⟩
  · -- the root enters `visited` and emits no event
    have : ((traverse ns root).visited.reverse.filter (fun k => k ≠ root && zeroed ns k)).length
        < (traverse ns root).visited.reverse.length :=
      List.length_filter_lt_length_iff_exists.mpr ⟨root, List.mem_reverse.mpr hq.mem, by simp⟩
    rw [List.length_reverse] at this
    rw [hq.tr]
    simp only [zs, List.nil_append, List.length_map]
    exact Nat.lt_of_lt_of_eq this hlen
  · intro e he
    rw [hq.tr] at he
    simp only [zs, List.nil_append, List.mem_map] at he
    obtain ⟨c, _, rfl⟩ := he
    exact ⟨c, rfl⟩
  · exact htopo

/-- **Post-order is topological and covers exactly the reachable nodes, each once.** -/
theorem traverse_order (ns : Graph G) (hw : WFG ns) (root : Nat) (hr : root < ns.length) :
    let ord := (traverse ns root).ordered
    ord.Nodup ∧ root ∈ ord ∧
    (∀ u ∈ ord, ∀ n, ns[u]? = some n → ∀ c ∈ n.children, BeforeIn ord c u) ∧
    (∀ v, v ∈ ord ↔ Reach ns root v) := by
  have F := travFacts ns hw root hr
  refine ⟨F.nodup, F.root_mem, ?_, F.mem_ord⟩
  intro u hu n hn c hc
  exact F.before u hu c (mem_chOf.mpr ⟨n, hn, hc⟩)

section
variable [Add G]

/-- every `grad_fn` returns one contribution slot per operand, whatever gradient it is given -/
def BacksTotal (ns : Graph G) : Prop :=
  ∀ (v : Nat) (n : Node G) (f : G → Option (List (Option G))) (γ : G), ns[v]? = some n → n.back = some f →
    ∃ l, f γ = some l ∧ l.length = n.children.length

/-- a node with a `grad_fn` requires grad (invariant of tensor creation) -/
def BackImpliesReq (ns : Graph G) : Prop :=
  ∀ (v : Nat) (n : Node G), ns[v]? = some n → n.back.isSome = true → n.reqGrad = true

omit [Add G] in
theorem BackImpliesReq.back_none {ns : Graph G} (hq : BackImpliesReq ns) {v : Nat} {n : Node G}
    (h0 : ns[v]? = some n) (hl : n.isLeaf = true) : n.back = none := by
  cases hh : n.back with
  | none => rfl
  | some f => simp [Node.isLeaf, hq v n h0 (by simp [hh]), hh] at hl

/-- the gradient stored on the root before the sweep -/
def rootVal (s : DfsSt G) (root : Nat) (g : G) : G :=
  match s.ns[root]? with
  | some r' => (match r'.isLeaf, r'.grad with
    | true, some old => old + g
    | _, _ => g)
  | none => g

theorem rootVal_nonleaf (s : DfsSt G) (root : Nat) (g : G) {r' : Node G} (h : s.ns[root]? = some r')
    (hl : r'.isLeaf = false) : rootVal s root g = g := by
  unfold rootVal; simp only [h, hl]

/-- the graph after the traversal and the assignment of the root gradient -/
def ns1 (ns : Graph G) (root : Nat) (g : G) : Graph G :=
  setGrad (traverse ns root).ns root (some (rootVal (traverse ns root) root g))

theorem ns1_ne (ns : Graph G) (root : Nat) (g : G) (k : Nat) (hk : k ≠ root) :
    (ns1 ns root g)[k]? = (traverse ns root).ns[k]? := getElem?_setGrad_ne _ _ _ _ hk

theorem ns1_root (ns : Graph G) (root : Nat) (g : G) {r' : Node G} (h : (traverse ns root).ns[root]? = some r') :
    (ns1 ns root g)[root]? = some { r' with grad := some (rootVal (traverse ns root) root g) } := by
  unfold ns1; rw [getElem?_setGrad_self, h]; rfl

theorem ns1_skel (ns : Graph G) (root : Nat) (g : G) : Skel ns (ns1 ns root g) :=
  (traverse_skel ns root).trans (skel_setGrad _ _ _)

theorem backward_eq (ns : Graph G) (root : Nat) (g : G) (rA : Bool) (r : Node G)
    (hr : ns[root]? = some r) (hrg : r.reqGrad = true) :
    backward ns root g rA =
      sweep root rA (traverse ns root).ordered.reverse (ns1 ns root g) (traverse ns root).trace := by
  obtain ⟨r', hr', _⟩ := (traverse_skel ns root).get hr
  rw [backward, hr]
  simp only [hrg, Bool.not_true, Bool.false_eq_true, if_false]
  unfold finish ns1 rootVal
  simp only [hr']
  cases r'.isLeaf <;> cases r'.grad <;> rfl

theorem backward_inv {ns : Graph G} {root : Nat} {g : G} {rA : Bool} {res : Graph G × List TrEv}
    (h : backward ns root g rA = some res) : ∃ r, ns[root]? = some r ∧ r.reqGrad = true ∧
      sweep root rA (traverse ns root).ordered.reverse (ns1 ns root g) (traverse ns root).trace = some res := by
  cases hr : ns[root]? with
  | none => simp [backward, hr] at h
  | some r =>
    cases hrg : r.reqGrad with
    | false => simp [backward, hr, hrg] at h
    | true => exact ⟨r, rfl, hrg, backward_eq ns root g rA r hr hrg ▸ h⟩

theorem backward_facts {ns : Graph G} (hw : WFG ns) {root : Nat} {g : G} {rA : Bool} {ns' : Graph G}
    {tr : List TrEv} (h : backward ns root g rA = some (ns', tr)) :
    ∃ r, ns[root]? = some r ∧ TravFacts ns root ∧
      SweepSpec ns root rA (traverse ns root).ordered.reverse (ns1 ns root g) ns' (traverse ns root).trace tr := by
  obtain ⟨r, hr, -, h⟩ := backward_inv h
  have F := travFacts ns hw root (lt_of_get hr)
  exact ⟨r, hr, F, sweep_spec ns root rA _ _ _ _ _ F.topo (ns1_skel ns root g) h⟩

theorem backward_succeeds (ns : Graph G) (hw : WFG ns) (hb : BacksTotal ns) (hq : BackImpliesReq ns)
    (root : Nat) (r : Node G) (hr : ns[root]? = some r) (hrg : r.reqGrad = true) (g : G) (retainAll : Bool) :
    ∃ res, backward ns root g retainAll = some res := by
  have F := travFacts ns hw root (lt_of_get hr)
  rw [backward_eq ns root g retainAll r hr hrg]
  refine sweep_succ root retainAll ns
    (fun v n f γ hn hf => (hb v n f γ hn hf).imp (fun l hl => hl.1)) hq _ _ _ F.topo (ns1_skel ns root g) ?_
  intro x hx
  have hxr : Reach ns root x := (F.mem_ord x).mp (List.mem_reverse.mp hx)
  have hxlt : x < ns.length := Nat.lt_of_le_of_lt (hxr.le hw) (lt_of_get hr)
  obtain ⟨n0, hn0⟩ : ∃ n0, ns[x]? = some n0 := ⟨ns[x], List.getElem?_eq_getElem hxlt⟩
  obtain ⟨n1, hn1, hst⟩ := F.skel.get hn0
  by_cases hxroot : x = root
  · subst hxroot
    exact ⟨_, ns1_root ns x g hn1, fun _ => rfl⟩
  · refine ⟨n1, by rw [ns1_ne _ _ _ _ hxroot]; exact hn1, fun hrq => ?_⟩
    have := (F.gi x n0 n1 hn0 hn1).1 ⟨⟨(F.mem_vis x).mpr hxr, hxroot⟩, reqGrad_of_strip hst ▸ hrq⟩
    rw [this]; unfold expG; split <;> rfl

/-- **Each recorded operation contributes exactly once** per backward call, and only operations
    reachable from the root contribute. -/
theorem each_fn_once (ns : Graph G) (hw : WFG ns) (root : Nat) (g : G) (retainAll : Bool)
    (ns' : Graph G) (tr : List TrEv) (h : backward ns root g retainAll = some (ns', tr)) (v : Nat) :
    (Reach ns root v ∧ (∃ n, ns[v]? = some n ∧ n.back.isSome = true) → tr.count (TrEv.call v) = 1) ∧
    (¬ (Reach ns root v ∧ (∃ n, ns[v]? = some n ∧ n.back.isSome = true)) → tr.count (TrEv.call v) = 0) := by
  obtain ⟨r, hr, F, S⟩ := backward_facts hw h
  obtain ⟨ev, hev, _, hc⟩ := S.trace
  have hz : (traverse ns root).trace.count (TrEv.call v) = 0 := by
    rw [List.count_eq_zero]
    intro hm
    obtain ⟨c, hc⟩ := F.zeros _ hm
    cases hc
  rw [hev, List.count_append, hz, Nat.zero_add, hc v]
  have hiff : (v ∈ (traverse ns root).ordered.reverse ∧ hasBack ns v = true) ↔
      (Reach ns root v ∧ ∃ n, ns[v]? = some n ∧ n.back.isSome = true) := by
    rw [List.mem_reverse, F.mem_ord v, hasBack_iff]
  exact ⟨fun h => if_pos (hiff.mpr h), fun h => if_neg (fun h' => h (hiff.mp h'))⟩

/-- **Frame**: backward changes nothing but gradient buffers, and no buffer of a node that is not
    reachable from the root, nor of a node that does not require grad. -/
theorem backward_frame (ns : Graph G) (hw : WFG ns) (root : Nat) (g : G) (retainAll : Bool)
    (ns' : Graph G) (tr : List TrEv) (h : backward ns root g retainAll = some (ns', tr)) :
    SameSkeleton ns ns' ∧
    (∀ v, ¬ Reach ns root v → ns'[v]? = ns[v]?) ∧
    (∀ v n n', v ≠ root → ns[v]? = some n → ns'[v]? = some n' → n.reqGrad = false → n'.grad = n.grad) := by
  obtain ⟨r, hr, F, S⟩ := backward_facts hw h
  have T := traverse_get ns hw root (lt_of_get hr)
  refine ⟨sameSkeleton_of_skel ((ns1_skel ns root g).trans S.skel), ?_, ?_⟩
  · intro v hv
    have hvroot : v ≠ root := by rintro rfl; exact hv (Reach.refl _)
    rw [S.frame v (fun hm => hv ((F.mem_ord v).mp (List.mem_reverse.mp hm))), ns1_ne _ _ _ _ hvroot, T v]
    cases ns[v]? with
    | none => rfl
    | some n => exact congrArg some (if_neg (fun h => hv ((F.mem_vis v).mp h.1.1)))
  · intro v n n' hvroot hn hn' hrq
    have h1 : (ns1 ns root g)[v]? = some n := by
      rw [ns1_ne _ _ _ _ hvroot, T v, hn]
      exact congrArg some (if_neg (fun h => by simp [hrq] at h))
    have := S.noreq v n h1 hrq
    rw [hn'] at this; cases this; rfl

/-- **Release rule**: after backward the root holds a gradient; a reachable non-leaf other than
    the root keeps its buffer iff it was marked with `retain_grad` or the call ran under
    `retain_grads`; reachable leaves that require grad hold a gradient. -/
theorem release_rule (ns : Graph G) (hw : WFG ns) (hb : BacksTotal ns) (hq : BackImpliesReq ns)
    (root : Nat) (g : G) (retainAll : Bool)
    (ns' : Graph G) (tr : List TrEv) (h : backward ns root g retainAll = some (ns', tr))
    (v : Nat) (n n' : Node G) (hv : Reach ns root v) (hn : ns[v]? = some n) (hn' : ns'[v]? = some n') :
    (v = root → n'.grad.isSome = true) ∧
    (v ≠ root → n.isLeaf = false → (n'.grad.isSome = (n.retain || retainAll))) ∧
    (v ≠ root → n.isLeaf = true → n.reqGrad = true → n'.grad.isSome = true) := by
  obtain ⟨r, hr, F, S⟩ := backward_facts hw h
  have hvL : v ∈ (traverse ns root).ordered.reverse := List.mem_reverse.mpr ((F.mem_ord v).mpr hv)
  refine ⟨?_, ?_, ?_⟩
  · rintro rfl
    obtain ⟨n1, hn1, -⟩ := F.skel.get hn
    exact S.keep v _ n' (ns1_root ns v g hn1) hn' (Or.inl rfl) rfl
  · intro hvroot hlf
    exact S.released v n n' hvL hvroot hn hn' hlf
  · intro hvroot hlf hrq
    have h1 : (ns1 ns root g)[v]? = some { n with grad := expG n } := by
      rw [ns1_ne _ _ _ _ hvroot, traverse_get ns hw root (lt_of_get hr) v, hn]
      exact congrArg some (if_pos ⟨⟨(F.mem_vis v).mpr hv, hvroot⟩, hrq⟩)
    exact S.keep v _ n' h1 hn' (Or.inr hlf) (by unfold expG; split <;> rfl)

/-- the two graphs have the same skeleton and the same gradients on leaves -/
def AgreeUpToNonLeafGrads (a b : Graph G) : Prop :=
  SameSkeleton a b ∧ ∀ (v : Nat) (n m : Node G), a[v]? = some n → b[v]? = some m → n.isLeaf = true → m.grad = n.grad

omit [Add G] in
/-- nodes that differ at most in a buffer the traversal overwrites are left equal -/
theorem metNode_agree {n m : Node G} (hst : strip m = strip n) (hgr : n.isLeaf = true → m.grad = n.grad)
    {X : Prop} [Decidable X] (hX : ¬ X → n.isLeaf = true) : metNode m X = metNode n X := by
  have hrq : m.reqGrad = n.reqGrad := reqGrad_of_strip hst
  by_cases h : X ∧ n.reqGrad = true
  · rw [metNode, metNode, if_pos h, if_pos (hrq ▸ h), withGrad_of_strip hst, expG, expG, isLeaf_of_strip hst,
      zero_of_strip hst]
    cases hl : n.isLeaf with
    | true => rw [hgr hl]
    | false => rfl
  · rw [metNode, metNode, if_neg h, if_neg (hrq ▸ h)]
    refine eq_of_strip_of_grad hst (hgr ?_)
    by_cases hx : X
    · cases hr : n.reqGrad with
      | false => simp [Node.isLeaf, hr]
      | true => exact absurd ⟨hx, hr⟩ h
    · exact hX hx

/-- the traversal half of `no_leftover_leak`: the same post-order and zero-initialisation events, and the graphs the sweep
    starts from (`ns1`) coincide on the listed nodes and on leaves — a non-leaf buffer that differs is overwritten (when its
    node is met as an operand, `metNode_agree`, or by the root gradient) or belongs to a node the traversal does not reach -/
theorem traverse_agree (a b : Graph G) (hw : WFG a) (hab : AgreeUpToNonLeafGrads a b)
    (root : Nat) (g : G) (ra : Node G) (hra : a[root]? = some ra) :
    (traverse b root).ordered = (traverse a root).ordered ∧
    (traverse b root).trace = (traverse a root).trace ∧
    ∀ (k : Nat), (k ∈ (traverse a root).ordered ∨ ∃ na, a[k]? = some na ∧ na.isLeaf = true) →
      (ns1 a root g)[k]? = (ns1 b root g)[k]? := by
  have hskab : Skel a b := skel_of_sameSkeleton hab.1
  have hwb : WFG b := hw.of_skel hskab
  have hrl := lt_of_get hra
  have Fa := travFacts a hw root hrl
  have qa := traverse_grads_trace a hw root hrl
  have qb := traverse_grads_trace b hwb root (hskab.length ▸ hrl)
  have R := traverse_rel hskab root
  have hnode : ∀ k na, a[k]? = some na → ∃ nb, b[k]? = some nb ∧ strip nb = strip na ∧
      (na.isLeaf = true → nb.grad = na.grad) := fun k na hk =>
    (hskab.get hk).imp fun nb h => ⟨h.1, h.2, hab.2 k na nb hk h.1⟩
  have hz : ∀ k, zeroed b k = zeroed a k := by
    intro k
    unfold zeroed
    cases hk : a[k]? with
    | none => rw [hskab.get_none hk]
    | some na =>
      obtain ⟨nb, hnb, hst, hgr⟩ := hnode k na hk
      rw [hnb]; simp only [reqGrad_of_strip hst, isLeaf_of_strip hst]
      cases hl : na.isLeaf with
      | true => rw [hgr hl]
      | false => simp
  refine ⟨R.ordered.symm, ?_, ?_⟩
  · rw [qa.tr, qb.tr, R.visited]; simp only [zs, hz]
  · intro k hx
    cases hka : a[k]? with
    | none =>
      rw [(ns1_skel a root g).get_none hka,
        (hskab.trans (ns1_skel b root g)).get_none hka]
    | some na => ?_
    obtain ⟨nb, hkb, hst, hgr⟩ := hnode k na hka
    by_cases hkr : k = root
    · subst hkr
      have h1a := (traverse_root a hw k hrl).trans hka
      have h1b := (traverse_root b hwb k (hskab.length ▸ hrl)).trans hkb
      have : rootVal (traverse b k) k g = rootVal (traverse a k) k g := by
        unfold rootVal
        simp only [h1a, h1b, isLeaf_of_strip hst]
        cases hl : na.isLeaf with
        | true => rw [hgr hl]
        | false => rfl
      rw [ns1_root a k g h1a, ns1_root b k g h1b, this]
      exact congrArg some (withGrad_of_strip hst.symm _)
    · rw [ns1_ne _ _ _ _ hkr, ns1_ne _ _ _ _ hkr, qa.met k, qb.met k, hka, hkb, ← R.visited]
      refine congrArg some (metNode_agree hst hgr (fun hX => ?_)).symm
      -- not met, hence not listed: a leaf by `hx`
      rcases hx with h | ⟨na', hna', hl'⟩
      · exact absurd ⟨(Fa.mem_vis k).mpr ((Fa.mem_ord k).mp h), hkr⟩ hX
      · rw [hka] at hna'; cases hna'; exact hl'

/-- **No leak of left-over gradients**: whatever gradients earlier calls left on non-leaf tensors,
    a backward call produces the same trace and the same gradients on every node reachable from
    its root and on every leaf. -/
theorem no_leftover_leak (a b : Graph G) (hw : WFG a) (hab : AgreeUpToNonLeafGrads a b)
    (root : Nat) (g : G) (retainAll : Bool) :
    (backward a root g retainAll).isSome = (backward b root g retainAll).isSome ∧
    ∀ a' ta b' tb, backward a root g retainAll = some (a', ta) → backward b root g retainAll = some (b', tb) →
      ta = tb ∧ ∀ (v : Nat) (n m : Node G), a'[v]? = some n → b'[v]? = some m →
        (Reach a root v ∨ n.isLeaf = true) → m.grad = n.grad := by
  have hskab : Skel a b := skel_of_sameSkeleton hab.1
  cases hra : a[root]? with
  | none =>
    unfold backward
    rw [hra, hskab.get_none hra]
    exact ⟨rfl, fun _ _ _ _ h => nomatch h⟩
  | some ra =>
    obtain ⟨rb, hrb, hst⟩ := hskab.get hra
    have hrq : rb.reqGrad = ra.reqGrad := reqGrad_of_strip hst
    cases hrg : ra.reqGrad with
    | false =>
      unfold backward
      simp only [hra, hrb, hrq, hrg, Bool.not_false, if_true]
      exact ⟨trivial, fun _ _ _ _ h => nomatch h⟩
    | true =>
      have F := travFacts a hw root (lt_of_get hra)
      obtain ⟨hord, htr, hagree⟩ := traverse_agree a b hw hab root g ra hra
      have hska : Skel a (ns1 a root g) := ns1_skel a root g
      rw [backward_eq a root g retainAll ra hra hrg, backward_eq b root g retainAll rb hrb (hrq ▸ hrg),
        hord, htr]
      have hL : ∀ k ∈ (traverse a root).ordered.reverse, (ns1 a root g)[k]? = (ns1 b root g)[k]? :=
        fun k hk => hagree k (Or.inl (List.mem_reverse.mp hk))
      cases ha : sweep root retainAll (traverse a root).ordered.reverse (ns1 a root g) (traverse a root).trace with
      | some ra' =>
        obtain ⟨b', hb, j2⟩ := sweep_sim a root retainAll _ _ _ _ ha _ F.topo hska hL
        rw [hb]
        refine ⟨rfl, ?_⟩
        rintro a' ta _ _ ⟨⟩ ⟨⟩
        refine ⟨rfl, ?_⟩
        intro v n m hn hm hx
        have S := sweep_spec a root retainAll _ _ _ _ _ F.topo hska ha
        obtain ⟨na, hna, hsta⟩ := (hska.trans S.skel).symm.get hn
        have := j2 v (hagree v (hx.imp (F.mem_ord v).mpr
          (fun hl => ⟨na, hna, (isLeaf_of_strip hsta).trans hl⟩)))
        rw [hn, hm] at this
        cases this; rfl
      | none =>
        refine ⟨?_, fun _ _ _ _ h => nomatch h⟩
        cases hb : sweep root retainAll (traverse a root).ordered.reverse (ns1 b root g) (traverse a root).trace with
        | none => rfl
        | some rb' =>
          -- the run on `b` would carry over to `a`
          obtain ⟨a', ha', -⟩ := sweep_sim a root retainAll _ _ _ _ hb _ F.topo
            (hskab.trans (ns1_skel b root g)) (fun k hk => (hL k hk).symm)
          rw [ha] at ha'; cases ha'

end

/-- **A context restores the mode that was in force when it was entered**, whatever happened in
    between to the *other* flag and whatever the object's `prev` held before (e.g. constructed
    earlier, or re-used). -/
theorem ctx_restores (m : Modes) (c : Ctx) (m' : Modes) :
    let (m1, c1) := ctxEnter m c
    (c.kind = .noGrad → (ctxExit m' c1).grad = m.grad ∧ (ctxExit m' c1).retain = m'.retain ∧ m1.grad = false ∧ m1.retain = m.retain) ∧
    (c.kind = .retainGrads → (ctxExit m' c1).retain = m.retain ∧ (ctxExit m' c1).grad = m'.grad ∧ m1.retain = true ∧ m1.grad = m.grad) := by
  cases c with
  | mk k p => cases k <;> simp [ctxEnter, ctxExit]

/-- a well-nested block: enter a context, run a well-nested body, exit (normally or by exception:
    `__exit__` runs in both cases) -/
inductive Block where
  | seq (bs : List Block)
  | ctx (k : CtxKind) (body : Block)

/-- run a block; context objects are created on the spot with an arbitrary stale `prev` -/
def runBlock (stale : Bool) : Block → Modes → Modes
  | .seq [], m => m
  | .seq (b :: bs), m => runBlock stale (.seq bs) (runBlock stale b m)
  | .ctx k body, m =>
    let (m1, c1) := ctxEnter m ⟨k, stale⟩
    ctxExit (runBlock stale body m1) c1

/-- **Stack discipline**: any well-nested arrangement of `no_grad` / `retain_grads` blocks, at any
    depth, leaves both global modes exactly as it found them. -/
theorem modes_stack (stale : Bool) (b : Block) (m : Modes) : runBlock stale b m = m := by
  fun_induction runBlock stale b m with
  | case1 m => rfl
  | case2 m b bs ih1 ih2 => rw [ih2, ih1]
  | case3 k body m m1 c1 h ih =>
    rw [ih]
    obtain ⟨rfl, rfl⟩ := Prod.ext_iff.mp h
    cases k <;> rfl

end Proofs.Engine
