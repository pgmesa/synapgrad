import Proofs.Core
/-!
# `map` / `zipSame` on well-formed arrays, read through `get`

A pointwise kernel written with `NDArray.map` / `NDArray.zipSame` keeps the shape,
keeps well-formedness, and reading it at a valid index (at any index, if the scalar function fixes
`0`) gives the scalar function applied to the operands' entries.
-/
namespace Proofs.Calc
open Synap Synap.NDArray Proofs.Core

variable {α β γ : Type}

theorem map_shape (f : α → β) (x : NDArray α) : (x.map f).shape = x.shape := rfl

theorem map_wf (f : α → β) (x : NDArray α) (hx : x.WF) : (x.map f).WF := by
  simpa [WF, NDArray.map] using hx

theorem map_ofFn (s : Shape) (f : Idx → α) (g : α → β) : (ofFn s f).map g = ofFn s (fun i => g (f i)) := by
  simp [ofFn, NDArray.map, Function.comp_def]

theorem zipSame_shape (f : α → β → γ) (x : NDArray α) (y : NDArray β) :
    (zipSame f x y).shape = x.shape := rfl

theorem zipSame_wf (f : α → β → γ) (x : NDArray α) (y : NDArray β) (hx : x.WF) (hy : y.WF)
    (hs : x.shape = y.shape) : (zipSame f x y).WF := by
  simp only [WF] at hx hy
  simp [WF, zipSame, hx, hy, hs]

theorem get_map [Zero α] [Zero β] (f : α → β) (x : NDArray α) (hx : x.WF) (i : Idx)
    (hi : validIdx x.shape i) : (x.map f).get i = f (x.get i) := by
  have hlt : ravel x.shape i < x.data.length := hx ▸ ravel_lt _ _ hi
  simp only [NDArray.get, NDArray.map, List.getD_eq_getElem?_getD, List.getElem?_map, List.getElem?_eq_getElem hlt,
    Option.map_some, Option.getD_some]

/-- a map that fixes `0` is read correctly at every index, in range or not, well-formed or not -/
theorem get_map0 [Zero α] [Zero β] (f : α → β) (hf : f 0 = 0) (x : NDArray α) (i : Idx) :
    (x.map f).get i = f (x.get i) := by
  simp only [NDArray.map, NDArray.get, List.getD_eq_getElem?_getD, List.getElem?_map]
  cases x.data[ravel x.shape i]? <;> simp [hf]

theorem get_zipSame [Zero α] [Zero β] [Zero γ] (f : α → β → γ) (x : NDArray α) (y : NDArray β)
    (hx : x.WF) (hy : y.WF) (hs : x.shape = y.shape) (i : Idx) (hi : validIdx x.shape i) :
    (zipSame f x y).get i = f (x.get i) (y.get i) := by
  have hlx : ravel x.shape i < x.data.length := hx ▸ ravel_lt _ _ hi
  have hly : ravel x.shape i < y.data.length := hy ▸ hs ▸ ravel_lt _ _ hi
  simp only [NDArray.get, zipSame, List.getD_eq_getElem?_getD, ← hs, List.getElem?_zipWith,
    List.getElem?_eq_getElem hlx, List.getElem?_eq_getElem hly, Option.getD_some]

end Proofs.Calc
