import Proofs.AdjointSum
import Proofs.AdjointConcat
import Proofs.AdjointMatmul
import Proofs.AdjointReshape
/-!
# The adjoint theorems of C01 that C02, C05, C14, `AdjointNN` and `SpecReduce` build on, with their siblings

transpose, add / mul (each operand), sum, addmm (each operand), and sum / max / min of a 0-d operand along
dim 0 / −1 (forward and backward are the identity).  matmul is in `AdjointMatmul`; the other ops of C01 are
proved in `Props/C01.lean`; the axis permutations and reshapes among them go through `isAdjoint_of_transposeP` /
`isAdjoint_of_reshape` below.
-/
namespace Proofs.Adjoint
open Synap Synap.NDArray Synap.Np Synap.Kernels
open Proofs.Core

variable {R : Type} [CommRing R]

/-! ### the two routes of the data-movement ops: on arrays of the operand's shape the forward is one
    axis permutation, or one reshape, and the result shape is read off the accepted call -/
theorem isAdjoint_of_transposeP {n : Nat} {p q : List Nat} (hp : PermPair n p q) {a y : NDArray R}
    {F B : NDArray R → Option (NDArray R)} (hn : a.shape.length = n)
    (hF : ∀ v : NDArray R, v.shape = a.shape → F v = some (transposeP v p))
    (hB : ∀ g : NDArray R, g.shape.length = n → B g = some (transposeP g q))
    (h : F a = some y) : IsAdjoint a.shape y.shape F B := by
  obtain rfl : transposeP a p = y := Option.some.inj ((hF a rfl).symm.trans h)
  exact (transposeP_adj hp a.shape hn).congr (fun v _ hvs => hF v hvs)
    fun g _ hgs => hB g (by rw [hgs]; exact (length_permute _ _).trans hp.length_left)

theorem isAdjoint_of_reshape {a y : NDArray R} {F : NDArray R → Option (NDArray R)} (s' : Shape)
    (hsz : Shape.size s' = Shape.size a.shape)
    (hF : ∀ v : NDArray R, v.WF → v.shape = a.shape → F v = some (reshapeTo v s'))
    (ha : a.WF) (h : F a = some y) :
    IsAdjoint a.shape y.shape F (fun g => reshapeBackward g a.shape) := by
  obtain rfl : reshapeTo a s' = y := Option.some.inj ((hF a ha rfl).symm.trans h)
  exact (reshapeTo_adj a.shape s' hsz.symm).congr hF fun g _ hgs => if_pos (hgs ▸ hsz)

theorem transpose_adj (a y : NDArray R) (d0 d1 : Int) (h : transposeForward a d0 d1 = some y) :
    IsAdjoint (R := R) a.shape y.shape (fun v => transposeForward v d0 d1) (fun g => transposeBackward g d0 d1) := by
  obtain ⟨hc, -⟩ := Option.ite_none_right_eq_some.1 ((SpecOps.swapaxes_eq a d0 d1).symm.trans h)
  exact isAdjoint_of_transposeP (swapPerm_pair _ _ _ (SpecOps.pyAxis_lt _ _ hc.1) (SpecOps.pyAxis_lt _ _ hc.2)) rfl
    (fun v hvs => by rw [transposeForward, SpecOps.swapaxes_eq, hvs, if_pos hc])
    (fun g hl => by rw [transposeBackward, SpecOps.swapaxes_eq, hl, if_pos hc]) h

/-- add is linear in each operand separately (the other operand contributes a constant): the
    Jacobian in the first operand is "broadcast `v` to the result shape", whose transpose is
    `unbroadcast` -/
theorem add_adj_left (a b y : NDArray R) (h : addForward a b = some y) :
    IsAdjoint (R := R) a.shape y.shape (fun v => addForward v (zeros b.shape)) (fun g => some (addBackward g a.shape b.shape).1) := by
  have hs := bcast2_inv _ a b y h
  apply bcast_adj a.shape y.shape _ (broadcastShapes_inv _ _ _ hs).2.1 (fun _ => 1)
  · intro v _ hvs
    have hs' : broadcastShapes v.shape (zeros b.shape : NDArray R).shape = some y.shape := by
      rw [hvs]; exact hs
    refine ⟨_, bcast2_some _ _ _ _ hs', ofFn_wf _ _, rfl, ?_⟩
    intro j hj
    rw [get_ofFn _ _ _ hj, get_zeros, add_zero, mul_one, hvs]
  · intro g _ hgs
    exact ⟨g, hgs, fun j _ => (one_mul _).symm, rfl⟩

theorem add_adj_right (a b y : NDArray R) (h : addForward a b = some y) :
    IsAdjoint (R := R) b.shape y.shape (fun v => addForward (zeros a.shape) v) (fun g => some (addBackward g a.shape b.shape).2) :=
  (add_adj_left b a y ((bcast2_comm _ add_comm b a).trans h)).congr
    (fun v _ _ => bcast2_comm _ add_comm _ v) (fun _ _ _ => rfl)

/-- mul is bilinear: the Jacobian in the first operand is `v ↦ v * b` -/
theorem mul_adj_left (a b y : NDArray R) (h : mulForward a b = some y) :
    IsAdjoint (R := R) a.shape y.shape (fun v => mulForward v b) (fun g => (mulBackward g a b).map (·.1)) := by
  have hs := bcast2_inv _ a b y h
  obtain ⟨hsa, hsb, -, -⟩ := broadcastShapes_absorb _ _ _ hs
  apply bcast_adj a.shape y.shape _ (broadcastShapes_inv _ _ _ hs).2.1 (fun j => b.get (bcastIdx b.shape j))
  · intro v _ hvs
    have hs' : broadcastShapes v.shape b.shape = some y.shape := by rw [hvs]; exact hs
    refine ⟨_, bcast2_some _ _ _ _ hs', ofFn_wf _ _, rfl, ?_⟩
    intro j hj
    rw [get_ofFn _ _ _ hj, hvs]
  · intro g _ hgs
    have h1 : broadcastShapes g.shape b.shape = some y.shape := by rw [hgs]; exact hsb
    have h2 : broadcastShapes g.shape a.shape = some y.shape := by rw [hgs]; exact hsa
    refine ⟨_, ?_, ?_, by simp only [mulBackward, bcast2_some _ _ _ _ h1, bcast2_some _ _ _ _ h2]; rfl⟩
    · rfl
    · intro j hj
      rw [get_ofFn _ _ _ hj, hgs, bcastIdx_self _ _ hj, mul_comm]

/-- two independent partial results paired in either order: the kernel only compares small terms here,
    on the arrays themselves the case split is slow to check -/
theorem map_fst_bind_comm {α β γ δ : Type} (x : Option α) (y : Option β) (f : α → γ) (h : β → δ) :
    (x.bind fun a => y.bind fun b => some (f a, h b)).map (·.1) =
      (y.bind fun b => x.bind fun a => some (h b, f a)).map (·.2) := by
  cases x <;> cases y <;> rfl

theorem mul_adj_right (a b y : NDArray R) (h : mulForward a b = some y) :
    IsAdjoint (R := R) b.shape y.shape (fun v => mulForward a v) (fun g => (mulBackward g a b).map (·.2)) :=
  (mul_adj_left b a y ((bcast2_comm _ mul_comm b a).trans h)).congr
    (fun v _ _ => bcast2_comm _ mul_comm a v) (fun _ _ _ => (map_fst_bind_comm _ _ _ _).symm)

theorem sum_adj (a y : NDArray R) (ax : Axes) (keep : Bool) (h : sumForward a ax keep = some y) :
    IsAdjoint (R := R) a.shape y.shape (fun v => sumForward v ax keep) (fun g => sumBackward g a.shape ax keep) := by
  rw [sumForward_eq] at h
  obtain ⟨axes, hn, rfl⟩ := Option.map_eq_some_iff.1 h
  have hk : (keep || ax == .all) = keep ∨ reduceShape a.shape axes keep = [] := by
    cases keep
    · by_cases e : ax = .all
      · right
        subst e
        simp only [normRed_all, Option.some.injEq] at hn
        rw [← hn]
        exact reduceShape_all_nokeep _
      · left; simp [e]
    · left; simp
  refine (sum_unreduce_adj a.shape axes keep _ hk).congr ?_ ?_
  · intro v _ hvs
    rw [sumForward_eq, hvs, hn]
    rfl
  · intro g _ _
    simp [sumBackward, hn]

/-! ### sum / max / min of a 0-d operand along `dim = 0` or `dim = -1`

NumPy's ufunc reductions accept exactly these two integer axes on a 0-d array and reduce nothing
(`Axes.normRed`); the backward kernels return the upstream gradient unchanged. -/

/-- **sum of a 0-d operand along dim 0 / −1 is the identity** (`keepdims` or not: the result is 0-d) -/
theorem sum_zero_dim (x : NDArray R) (hx : x.WF) (hs : x.shape = []) (d : Int) (hd : d = 0 ∨ d = -1)
    (keep : Bool) : sumForward x (.one d) keep = some x :=
  sum_nil_axes x hx _ keep (by rw [hs]; exact (normRed_zero_one d).trans (if_pos hd))

/-- a 0-d array is the constant array of its one value -/
theorem ofFn_nil_get (x : NDArray R) (hx : x.WF) (hs : x.shape = []) (ι : Idx → Idx) :
    ofFn [] (fun o => x.get (ι o)) = x :=
  ext_get _ _ (ofFn_wf _ _) hx hs.symm fun i hi => (get_ofFn _ _ i hi).trans (get_shape_nil x hs _ _)

theorem sum_zero_dim_backward (g : NDArray R) (hg : g.WF) (hs : g.shape = []) (d : Int) (hd : d = 0 ∨ d = -1)
    (keep : Bool) : sumBackward g [] (.one d) keep = some g := by
  show (Axes.normRed 0 (.one d)).bind _ = _
  rw [normRed_zero_one, if_pos hd]
  exact congrArg some (ofFn_nil_get g hg hs _)

theorem ext_zero_dim (better : R → R → Bool) (x : NDArray R) (hx : x.WF) (hs : x.shape = []) (d : Int)
    (hd : d = 0 ∨ d = -1) (keep : Bool) : extForward better x (some d) keep = some x := by
  show (Axes.normRed x.shape.length (.one d)).bind _ = _
  rw [hs, List.length_nil, normRed_zero_one, if_pos hd]
  show some (ofFn (reduceShape [] [] keep) _) = _
  rw [reduceShape_nil, ofFn_nil_get x hx hs]

theorem ext_zero_dim_backward (better : R → R → Bool) (g x : NDArray R) (hg : g.WF) (hgs : g.shape = [])
    (hs : x.shape = []) (d : Int) (hd : d = 0 ∨ d = -1) (keep : Bool) :
    extBackward better g x (some d) keep = some g := by
  obtain ⟨sh, data⟩ := x
  subst hs
  show (Axes.normRed 0 (.one d)).bind _ = _
  rw [normRed_zero_one, if_pos hd]
  refine congrArg some (ext_get _ _ (ofFn_wf _ _) hg hgs.symm fun i hi => ?_)
  have hi' : validIdx [] i := hi
  obtain rfl : i = [] := List.length_eq_zero_iff.1 (validIdx_length [] i hi')
  rw [get_ofFn _ _ _ hi']
  -- the one fibre is `[[]]`, so the mask is 1; the gradient is read at some index of a 0-d array
  cases keep
  · show (reshapeTo g []).get [] * 1 = g.get []
    rw [mul_one]
    exact (get_gather [] _ g [] trivial).trans (get_shape_nil g hgs _ _)
  · exact mul_one _

theorem addmm_adj_a (a b c y : NDArray R) (h : addmmForward a b c = some y)
    (hb2 : b.shape.length = 2) (hc2 : c.shape.length = 2) :
    IsAdjoint (R := R) a.shape y.shape (fun v => addmmForward v (zeros b.shape) c)
      (fun g => (addmmBackward g a b c).map (·.1)) := by
  obtain ⟨mm, hmm, hadd, hz, hB⟩ := addmm_inv a b c y h hb2 hc2
  refine (add_adj_left a mm y hadd).congr (fun v _ _ => ?_) (fun g _ _ => ?_)
  · show (matmul _ c).bind _ = _
    rw [hz, Option.bind_some]
  · obtain ⟨p, -, hp⟩ := hB g
    exact congrArg (Option.map _) hp

theorem addmm_adj_b (a b c y : NDArray R) (h : addmmForward a b c = some y)
    (hb2 : b.shape.length = 2) (hc2 : c.shape.length = 2) :
    IsAdjoint (R := R) b.shape y.shape (fun v => addmmForward (zeros a.shape) v c)
      (fun g => (addmmBackward g a b c).map (·.2.1)) := by
  obtain ⟨mm, hmm, hadd, -, hB⟩ := addmm_inv a b c y h hb2 hc2
  refine ((matmul_adj_left b c mm hmm).comp (add_adj_right a mm y hadd)).congr
    (fun _ _ _ => rfl) (fun g _ _ => ?_)
  obtain ⟨p, hp, hg⟩ := hB g
  exact (congrArg (Option.map _) hg).trans (congrArg (Option.map _) hp).symm

theorem addmm_adj_c (a b c y : NDArray R) (h : addmmForward a b c = some y)
    (hb2 : b.shape.length = 2) (hc2 : c.shape.length = 2) :
    IsAdjoint (R := R) c.shape y.shape (fun v => addmmForward (zeros a.shape) b v)
      (fun g => (addmmBackward g a b c).map (·.2.2)) := by
  obtain ⟨mm, hmm, hadd, -, hB⟩ := addmm_inv a b c y h hb2 hc2
  refine ((matmul_adj_right b c mm hmm).comp (add_adj_right a mm y hadd)).congr
    (fun _ _ _ => rfl) (fun g _ _ => ?_)
  obtain ⟨p, hp, hg⟩ := hB g
  exact (congrArg (Option.map _) hg).trans (congrArg (Option.map _) hp).symm

end Proofs.Adjoint
