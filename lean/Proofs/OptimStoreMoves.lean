import Proofs.OptimStoreHeap
/-!
# Separation invariant of `Synap.OptimStore` and the calculus of frames

Every transition of the model is a `Moves W C` with a small `W` and `C`.  `Moves` preserves `Inv`, composes,
and tells which places keep their buffer and which buffers their content.  Nothing here looks into a
particular transition: a `step` enters as a loop whose body is a `Moves` (`StepLoop`).
-/
namespace Proofs.OptimStore
open Synap.OptimStore

variable {α : Type}

structure Inv (s : Store α) : Prop where
  /-- every place holds a buffer of the heap -/
  bounded : ∀ r i x, slot s r i = some x → x < s.heap.length
  /-- two places holding the same buffer are the same place -/
  sep : ∀ r i r' i' x, slot s r i = some x → slot s r' i' = some x → r = r' ∧ i = i'

/-- The transition `s → s'` overwrote only buffers in `W` and rebound only places in `C`, never a
    parameter's data, each to the buffer it held or to a fresh one. -/
structure Moves (W : BufId → Prop) (C : Role → Nat → Prop) (s s' : Store α) : Prop where
  ext : Ext W s.heap s'.heap
  data : ∀ i, slot s' .data i = slot s .data i
  same : ∀ r i, ¬ C r i → slot s' r i = slot s r i
  fresh : ∀ r i x, slot s' r i = some x → slot s r i = some x ∨ (s.heap.length ≤ x ∧ x < s'.heap.length)
  /-- a buffer allocated by the transition is held by at most one place.  Asked at separated states
      only: every transition has it there, and so has a sequence of transitions. -/
  uniq : Inv s → ∀ r i r' i' x, s.heap.length ≤ x → slot s' r i = some x → slot s' r' i' = some x →
    r = r' ∧ i = i'

theorem Moves.inv {W : BufId → Prop} {C : Role → Nat → Prop} {s s' : Store α} (hI : Inv s)
    (m : Moves W C s s') : Inv s' := by
  constructor
  · intro r i x hx
    rcases m.fresh r i x hx with h | h
    · exact Nat.lt_of_lt_of_le (hI.bounded r i x h) m.ext.1
    · exact h.2
  · intro r i r' i' x hx hx'
    rcases m.fresh r i x hx with h | h
    · rcases m.fresh r' i' x hx' with h' | h'
      · exact hI.sep r i r' i' x h h'
      · exact absurd (hI.bounded r i x h) (Nat.not_lt.mpr h'.1)
    · exact m.uniq hI r i r' i' x h.1 hx hx'

theorem Moves.of_same {W : BufId → Prop} (C : Role → Nat → Prop) {s s' : Store α}
    (hext : Ext W s.heap s'.heap) (hs : ∀ r i, slot s' r i = slot s r i) : Moves W C s s' :=
  ⟨hext, fun i => hs _ i, fun r i _ => hs r i, fun r i _ hx => Or.inl (hs r i ▸ hx),
   fun hI r i _ _ x hx h _ => absurd (hI.bounded r i x (hs r i ▸ h)) (Nat.not_lt.mpr hx)⟩

theorem Moves.refl (W : BufId → Prop) (C : Role → Nat → Prop) (s : Store α) : Moves W C s s :=
  Moves.of_same C (Ext.refl _ _) fun _ _ => rfl

theorem Moves.trans {W : BufId → Prop} {C : Role → Nat → Prop} {s₁ s₂ s₃ : Store α}
    (a : Moves W C s₁ s₂) (b : Moves W C s₂ s₃) : Moves W C s₁ s₃ := by
  refine ⟨a.ext.trans b.ext, fun i => (b.data i).trans (a.data i),
    fun r i h => (b.same r i h).trans (a.same r i h), ?_, ?_⟩
  · intro r i x hx
    rcases b.fresh r i x hx with h | h
    · rcases a.fresh r i x h with h' | h'
      · exact Or.inl h'
      · exact Or.inr ⟨h'.1, Nat.lt_of_lt_of_le h'.2 b.ext.1⟩
    · exact Or.inr ⟨Nat.le_trans a.ext.1 h.1, h.2⟩
  · intro hI r i r' i' x hx h h'
    -- allocated by the second transition, or by the first and then kept by both places
    by_cases hx₂ : s₂.heap.length ≤ x
    · exact b.uniq (a.inv hI) r i r' i' x hx₂ h h'
    · have kept : ∀ r i, slot s₃ r i = some x → slot s₂ r i = some x := fun r i h =>
        (b.fresh r i x h).resolve_right fun f => hx₂ f.1
      exact a.uniq hI r i r' i' x hx (kept r i h) (kept r' i' h')

theorem Moves.mono {W W' : BufId → Prop} {C C' : Role → Nat → Prop} {s s' : Store α}
    (hW : ∀ x, W x → W' x) (hC : ∀ r i, C r i → C' r i) (a : Moves W C s s') : Moves W' C' s s' :=
  ⟨a.ext.mono hW, a.data, fun r i h => a.same r i (fun c => h (hC r i c)), a.fresh, a.uniq⟩

theorem moves_foldl {W : BufId → Prop} {C : Role → Nat → Prop} (H : Store α → Prop)
    (f : Store α → Nat → Store α)
    (hf : ∀ s j, H s → Moves W C s (f s j) ∧ H (f s j))
    (l : List Nat) (s : Store α) (h0 : H s) :
    Moves W C s (l.foldl f s) ∧ H (l.foldl f s) := by
  induction l generalizing s with
  | nil => exact ⟨Moves.refl W C s, h0⟩
  | cons j l ih =>
    have m := hf s j h0
    have r := ih (f s j) m.2
    exact ⟨m.1.trans r.1, r.2⟩

theorem Moves.of_single {W : BufId → Prop} {C : Role → Nat → Prop} {s s' : Store α}
    (hext : Ext W s.heap s'.heap) (r0 : Role) (i0 : Nat) (hr0 : r0 ≠ .data) (hC : C r0 i0)
    (hsame : ∀ r i, ¬ (r = r0 ∧ i = i0) → slot s' r i = slot s r i)
    (hfresh : ∀ x, slot s' r0 i0 = some x →
      slot s r0 i0 = some x ∨ (s.heap.length ≤ x ∧ x < s'.heap.length)) :
    Moves W C s s' := by
  refine ⟨hext, fun i => hsame _ _ fun h => hr0 h.1.symm, fun r i h => hsame r i fun e => h (e.1 ▸ e.2 ▸ hC),
    fun r i x hx => ?_, fun hI r i r' i' x hx h h' => ?_⟩
  · by_cases hc : r = r0 ∧ i = i0
    · obtain ⟨rfl, rfl⟩ := hc; exact hfresh x hx
    · exact Or.inl (hsame r i hc ▸ hx)
  · -- the other places hold what they held, which is older than `x`
    have only : ∀ r i, slot s' r i = some x → r = r0 ∧ i = i0 := fun r i h =>
      Classical.byContradiction fun hn => Nat.not_lt.mpr hx (hI.bounded r i x (hsame r i hn ▸ h))
    exact ⟨(only r i h).1.trans (only r' i' h').1.symm, (only r i h).2.trans (only r' i' h').2.symm⟩

theorem Moves.keeps {W : BufId → Prop} {C : Role → Nat → Prop} {s s' : Store α} (hI : Inv s)
    (m : Moves W C s s') {r : Role} {j : Nat} {x : BufId} (hx : slot s r j = some x) (hC : ¬ C r j)
    (hW : ¬ W x) : slot s' r j = some x ∧ rdBuf s'.heap x = rdBuf s.heap x :=
  ⟨by rw [m.same r j hC]; exact hx, m.ext.rd_eq (hI.bounded r j x hx) hW⟩

theorem getElem?_set_of_some {β : Type} {l : List β} {i : Nat} {x : β} (y : β) (h : l[i]? = some x) :
    (l.set i y)[i]? = some y := List.getElem?_set_self (List.getElem?_eq_some_iff.mp h).1

theorem slot_grad_of {s : Store α} {i : Nat} {p : PS} (hp : s.ps[i]? = some p) :
    slot s .grad i = p.grad := congrArg (Option.bind · PS.grad) hp

theorem slot_data_of {s : Store α} {i : Nat} {p : PS} (hp : s.ps[i]? = some p) :
    slot s .data i = some p.data := congrArg (Option.map PS.data) hp

theorem slot_b1_of {s : Store α} {i : Nat} {ob : Option BufId} (h : s.b1[i]? = some ob) :
    slot s .b1 i = ob := congrArg Option.join h

theorem slot_b2_of {s : Store α} {i : Nat} {ob : Option BufId} (h : s.b2[i]? = some ob) :
    slot s .b2 i = ob := congrArg Option.join h

theorem slot_setPS (s : Store α) (h : Heap α) {i : Nat} {p : PS} (hp : s.ps[i]? = some p)
    (g : Option BufId) (b : Bool) (r : Role) (j : Nat) :
    slot { s with heap := h, ps := s.ps.set i { p with grad := g, rg := b } } r j
      = if r = .grad ∧ j = i then g else slot s r j := by
  by_cases c : r = .grad ∧ j = i
  · rw [if_pos c, c.1, c.2]; exact congrArg (Option.bind · PS.grad) (getElem?_set_of_some _ hp)
  · rw [if_neg c]
    cases r
    · by_cases e : i = j
      · subst e; exact (congrArg (Option.map PS.data) (getElem?_set_of_some _ hp)).trans (slot_data_of hp).symm
      · exact congrArg (Option.map PS.data) (List.getElem?_set_ne e)
    · exact congrArg (Option.bind · PS.grad) (List.getElem?_set_ne fun e => c ⟨rfl, e.symm⟩)
    · rfl
    · rfl

theorem moves_setHeap {W : BufId → Prop} (C : Role → Nat → Prop) (s : Store α) {h : Heap α}
    (hext : Ext W s.heap h) : Moves W C s { s with heap := h } :=
  Moves.of_same C hext fun r _ => by cases r <;> rfl

theorem join_set_self {l : List (Option BufId)} {i : Nat} {x y : BufId}
    (h : ((l.set i (some x))[i]?).join = some y) : y = x := by
  revert h
  rw [List.getElem?_set_self']
  cases l[i]? <;> intro h <;> cases h
  rfl

theorem moves_setB1 {W : BufId → Prop} {C : Role → Nat → Prop} (s : Store α) {h : Heap α} (i : Nat)
    {x : BufId} (hext : Ext W s.heap h) (hx : s.heap.length ≤ x ∧ x < h.length) (hC : C .b1 i) :
    Moves W C s { s with heap := h, b1 := s.b1.set i (some x) } := by
  refine Moves.of_single hext .b1 i nofun hC (fun r j hn => ?_) fun y hy => Or.inr (join_set_self hy ▸ hx)
  cases r
  · rfl
  · rfl
  · exact congrArg Option.join (List.getElem?_set_ne fun e => hn ⟨rfl, e.symm⟩)
  · rfl

theorem moves_setB2 {W : BufId → Prop} {C : Role → Nat → Prop} (s : Store α) {h : Heap α} (i : Nat)
    {x : BufId} (st : List Nat) (hext : Ext W s.heap h) (hx : s.heap.length ≤ x ∧ x < h.length)
    (hC : C .b2 i) : Moves W C s { s with heap := h, b2 := s.b2.set i (some x), steps := st } := by
  refine Moves.of_single hext .b2 i nofun hC (fun r j hn => ?_) fun y hy => Or.inr (join_set_self hy ▸ hx)
  cases r
  · rfl
  · rfl
  · rfl
  · exact congrArg Option.join (List.getElem?_set_ne fun e => hn ⟨rfl, e.symm⟩)

/-- `x` is the data buffer of parameter `i`, and a step updates parameter `i`: it requires grad and
    has a gradient -/
def Active (s : Store α) (i : Nat) (x : BufId) : Prop :=
  ∃ p gb, s.ps[i]? = some p ∧ p.rg = true ∧ p.grad = some gb ∧ p.data = x

theorem not_active {s : Store α} {i : Nat} {p : PS} (hp : s.ps[i]? = some p)
    (h : p.rg = false ∨ p.grad = none) : ¬ ∃ x, Active s i x := by
  rintro ⟨_, p', gb, hp', hrg, hg, -⟩
  rw [hp] at hp'; cases hp'
  rcases h with h | h
  · rw [h] at hrg; cases hrg
  · rw [h] at hg; cases hg

/-- what the histories need of an optimizer's `step`: it keeps the separation frame and overwrites
    held buffers only -/
def StepOK (step : Store α → Store α) : Prop :=
  ∀ s : Store α, ∃ W C, Moves W C s (step s) ∧ ∀ x, W x → ∃ r j, slot s r j = some x

/-- the frame of a whole `step` from the frame of its loop body: parameter `i` is updated in place
    when active, and only optimizer places of `i` (those with a role in `R`) are rebound -/
structure StepLoop (f : Store α → Nat → Store α) (R : Role → Prop) : Prop where
  moves : ∀ (s : Store α) i, Moves (Active s i) (fun r j => R r ∧ j = i) s (f s i)
  idle : ∀ s i, (¬ ∃ x, Active s i x) → f s i = s
  rest : ∀ s j, (f s j).ps = s.ps ∧ ∀ i, j ≠ i →
    (f s j).b1[i]? = s.b1[i]? ∧ (f s j).b2[i]? = s.b2[i]? ∧ (f s j).steps[i]? = s.steps[i]?

theorem StepLoop.of_active {f : Store α → Nat → Store α} {R : Role → Prop}
    (idle : ∀ s i, (¬ ∃ x, Active s i x) → f s i = s)
    (active : ∀ s i p gb, s.ps[i]? = some p → p.rg = true → p.grad = some gb →
      Moves (· = p.data) (fun r j => R r ∧ j = i) s (f s i) ∧ (f s i).ps = s.ps ∧ ∀ j, i ≠ j →
        (f s i).b1[j]? = s.b1[j]? ∧ (f s i).b2[j]? = s.b2[j]? ∧ (f s i).steps[j]? = s.steps[j]?) :
    StepLoop f R := by
  refine ⟨fun s i => ?_, idle, fun s i => ?_⟩
  all_goals by_cases h : ∃ x, Active s i x
  · obtain ⟨_, p, gb, hp, hrg, hgr, rfl⟩ := h
    exact (active s i p gb hp hrg hgr).1.mono (fun x hx => ⟨p, gb, hp, hrg, hgr, hx.symm⟩) fun _ _ h => h
  · rw [idle s i h]; exact Moves.refl _ _ s
  · obtain ⟨_, p, gb, hp, hrg, hgr, rfl⟩ := h
    exact (active s i p gb hp hrg hgr).2
  · rw [idle s i h]; exact ⟨rfl, fun _ _ => ⟨rfl, rfl, rfl⟩⟩

theorem StepLoop.all {f : Store α → Nat → Store α} {R : Role → Prop} (h : StepLoop f R) (s : Store α) :
    Moves (fun x => ∃ j, Active s j x) (fun r _ => R r) s ((List.range s.ps.length).foldl f s) ∧
    ((List.range s.ps.length).foldl f s).ps = s.ps := by
  refine moves_foldl (fun s' => s'.ps = s.ps) f ?_ _ s rfl
  intro s₁ j e
  refine ⟨(h.moves s₁ j).mono (fun x hx => ⟨j, ?_⟩) (fun r _ h => h.1), (h.rest s₁ j).1.trans e⟩
  unfold Active at *; rw [← e]; exact hx

theorem StepLoop.ok {f : Store α → Nat → Store α} {R : Role → Prop} (h : StepLoop f R) :
    StepOK (fun s => (List.range s.ps.length).foldl f s) := fun s =>
  ⟨_, _, (h.all s).1, by
    rintro x ⟨j, p, gb, hp, -, -, rfl⟩
    exact ⟨.data, j, slot_data_of hp⟩⟩

theorem StepLoop.keeps_grads {f : Store α → Nat → Store α} {R : Role → Prop} (h : StepLoop f R)
    (hR : ¬ R .grad) {s : Store α} (hI : Inv s) {j : Nat} {x : BufId} (hx : slot s .grad j = some x) :
    slot ((List.range s.ps.length).foldl f s) .grad j = some x ∧
    rdBuf ((List.range s.ps.length).foldl f s).heap x = rdBuf s.heap x := by
  refine (h.all s).1.keeps hI hx hR ?_
  rintro ⟨j', p, gb, hp, -, -, rfl⟩
  cases (hI.sep .data j' .grad j p.data (slot_data_of hp) hx).1

theorem StepLoop.keeps_inactive {f : Store α → Nat → Store α} {R : Role → Prop} (h : StepLoop f R)
    {s : Store α} (hI : Inv s) {j : Nat} {p : PS} (hp : s.ps[j]? = some p)
    (hi : p.rg = false ∨ p.grad = none) :
    rdBuf ((List.range s.ps.length).foldl f s).heap p.data = rdBuf s.heap p.data := by
  refine (h.all s).1.ext.rd_eq (hI.bounded .data j _ (slot_data_of hp)) fun ⟨j', w⟩ => ?_
  obtain ⟨p', gb, hp', -, -, hd⟩ := id w
  -- the only parameter with this data buffer is `j`, which is not active
  cases (hI.sep .data j' .data j p.data (hd ▸ slot_data_of hp') (slot_data_of hp)).2
  exact not_active hp hi ⟨_, w⟩

end Proofs.OptimStore
