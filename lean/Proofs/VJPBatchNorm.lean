import Proofs.VJPBasic
/-!
# Lemmas for the VJP theorems of batch normalisation (`Props.C02.batch_norm_*_vjp`)

Sums over the index set split by channel; the kernels as one formula each; and, for the training mode, the
derivatives of the batch mean and variance along a line and the per-channel identity that turns the derivative of the
normalised entries, paired with the upstream gradient, into the three-term gradient the backward kernel computes.
-/
namespace Proofs.NL
open Synap Synap.NDArray Synap.Np Synap.Kernels Proofs.Core

/-- the kernels branch on whether `γ` / `β` are given; with the scale and shift read through `bn_gam` / `bn_bet`
    every branch is the same formula -/
noncomputable def bn_gam (gamma : Option (NDArray ℝ)) (c : Nat) : ℝ :=
  match gamma with | some g => g.data.getD c 1 | none => 1
noncomputable def bn_bet (beta : Option (NDArray ℝ)) (c : Nat) : ℝ :=
  match beta with | some b => b.data.getD c 0 | none => 0

theorem bn_forward_eq (z : NDArray ℝ) (gamma beta : Option (NDArray ℝ)) (mean var : Nat → ℝ) (eps : ℝ) :
    bnForward z gamma beta mean var eps = ofFn z.shape (fun i =>
      (z.get i - mean (getI i 1)) / Real.sqrt (var (getI i 1) + eps) * bn_gam gamma (getI i 1)
        + bn_bet beta (getI i 1)) := by
  cases gamma <;> cases beta <;> simp only [bn_gam, bn_bet, mul_one, add_zero] <;> rfl

/-- entry `i` of the input gradient the training-mode backward kernel computes -/
noncomputable def bnTrainGrad (L : List Idx) (D xf : Idx → ℝ) (m sd n pw : ℝ) (i : Idx) : ℝ :=
  D i / sd
  + 2 * ((L.map (fun k => -(1 / 2) * D k * (xf k - m))).sum * pw) * (xf i - m) / n
  + ((L.map (fun k => -1 / sd * D k)).sum
      + ((L.map (fun k => -(1 / 2) * D k * (xf k - m))).sum * pw) * (L.map (fun k => -2 * (xf k - m))).sum / n) / n

theorem bn_backward_dx_eq (g x : NDArray ℝ) (gamma : Option (NDArray ℝ)) (hasB useBatch : Bool)
    (mean var : Nat → ℝ) (eps : ℝ) :
    (bnBackward g x gamma hasB useBatch mean var eps).1 = ofFn x.shape (fun i =>
      if useBatch then
        bnTrainGrad (chanIdx x.shape (getI i 1)) (fun k => g.get k * bn_gam gamma (getI k 1)) x.get (mean (getI i 1))
          (Real.sqrt (var (getI i 1) + eps)) (((chanIdx x.shape (getI i 1)).length : Nat) : ℝ)
          ((var (getI i 1) + eps) ^ (-((3 : ℝ) / 2))) i
      else (g.get i * bn_gam gamma (getI i 1)) / Real.sqrt (var (getI i 1) + eps)) := by
  cases gamma <;> simp +singlePass only [↓bn_gam, mul_one] <;> rfl

theorem bn_backward_dgamma_eq (g x gm : NDArray ℝ) (hasB useBatch : Bool) (mean var : Nat → ℝ) (eps : ℝ) :
    (bnBackward g x (some gm) hasB useBatch mean var eps).2.1 = some (ofFn [x.shape.getD 1 0] (fun j =>
      ((chanIdx x.shape (getI j 0)).map (fun i => g.get i *
        ((x.get i - mean (getI i 1)) / Real.sqrt (var (getI i 1) + eps)))).sum)) := rfl

theorem bn_backward_dbeta_eq (g x : NDArray ℝ) (gamma : Option (NDArray ℝ)) (useBatch : Bool) (mean var : Nat → ℝ) (eps : ℝ) :
    (bnBackward g x gamma true useBatch mean var eps).2.2 = some (ofFn [x.shape.getD 1 0] (fun j =>
      ((chanIdx x.shape (getI j 0)).map g.get).sum)) := rfl

theorem bn_data_getD (a : NDArray ℝ) (ch : Nat) (hs : a.shape = [ch]) (ha : a.WF) (c : Nat) (hc : c < ch) (d : ℝ) :
    a.data.getD c d = a.get [c] := by
  have hl : c < a.data.length := by
    rw [ha, hs]; simpa [Shape.size] using hc
  simp [NDArray.get, hs, ravel, Shape.size, hl]

theorem bn_mem_chanIdx (s : Shape) (c : Nat) (i : Idx) :
    i ∈ chanIdx s c ↔ validIdx s i ∧ getI i 1 = c := by
  simp [chanIdx, mem_allIdx]

theorem bn_sum_chan (s : Shape) (hr : 2 ≤ s.length) (f : Idx → Nat → ℝ) :
    ((allIdx s).map (fun i => f i (getI i 1))).sum
      = ((List.range (s.getD 1 0)).map (fun c => ((chanIdx s c).map (fun i => f i c)).sum)).sum := by
  rw [← List.sum_toFinset _ (allIdx_nodup s), ← List.sum_toFinset _ (List.nodup_range)]
  rw [← Finset.sum_fiberwise_of_maps_to (s := (allIdx s).toFinset) (t := (List.range (s.getD 1 0)).toFinset)
    (g := fun i => getI i 1)]
  · apply Finset.sum_congr rfl
    intro c _
    rw [chanIdx, ← List.sum_toFinset _ ((allIdx_nodup s).filter _), List.toFinset_filter]
    apply Finset.sum_congr
    · ext i; simp
    · intro i hi
      rw [show getI i 1 = c from by simpa using (Finset.mem_filter.mp hi).2]
  · intro i hi
    rw [List.mem_toFinset, mem_allIdx] at hi
    rw [List.mem_toFinset, List.mem_range]
    exact validIdx_getD s i 1 hi hr

theorem bn_sum_param (s : Shape) (hr : 2 ≤ s.length) (v : NDArray ℝ) (w : Idx → ℝ) :
    ((allIdx [s.getD 1 0]).map (fun j => v.get j * ((chanIdx s (getI j 0)).map w).sum)).sum
      = ((allIdx s).map (fun i => v.get [getI i 1] * w i)).sum := by
  rw [bn_sum_chan s hr (fun (i : Idx) (c : Nat) => v.get [c] * w i)]
  simp only [Proofs.ConvTools.sum_allIdx_cons, Proofs.ConvTools.sum_allIdx_nil, Proofs.ConvTools.sum_map_range]
  exact Finset.sum_congr rfl fun c _ => (List.sum_map_mul_left ..).symm

theorem bn_sum_lin3 (L : List Idx) (a b c : ℝ) (f g h : Idx → ℝ) :
    (L.map (fun i => a * f i + b * g i + c * h i)).sum
      = a * (L.map f).sum + b * (L.map g).sum + c * (L.map h).sum := by
  simp only [List.sum_map_add, List.sum_map_mul_left]

/-- the derivative at `t = 0` of the normalised entry `i` of a channel `L` along the line (`bn_hasDerivAt_xhat`) -/
noncomputable def bnXhatDeriv (L : List Idx) (xf vf : Idx → ℝ) (m sd n : ℝ) (i : Idx) : ℝ :=
  (vf i - (L.map vf).sum / n) * sd⁻¹
    - (xf i - m) * ((L.map (fun k => 2 * (xf k - m) * (vf k - (L.map vf).sum / n))).sum / n) * sd⁻¹ ^ 3 / 2

/-- within a channel, the derivative of the normalised entries paired with `D` is the direction paired with the
    kernel's three-term gradient of `D` -/
theorem bn_chan_identity (L : List Idx) (D xf vf : Idx → ℝ) (m sd n pw : ℝ) (hpw : pw = sd⁻¹ ^ 3) :
    (L.map (fun i => bnXhatDeriv L xf vf m sd n i * D i)).sum = (L.map (fun i => vf i * bnTrainGrad L D xf m sd n pw i)).sum := by
  subst hpw
  -- both sides are linear combinations of six sums over the channel (the kernel's own sums taken as they stand)
  have e1 : (L.map (fun k => 2 * (xf k - m) * (vf k - (L.map vf).sum / n))).sum
      = 2 * (L.map (fun k => vf k * (xf k - m))).sum + (L.map vf).sum / n * (L.map (fun k => -2 * (xf k - m))).sum := by
    rw [← List.sum_map_mul_left, ← List.sum_map_mul_left, ← List.sum_map_add]
    exact congrArg List.sum (List.map_congr_left fun k _ => by ring)
  have l1 : ∀ a1 a2 : ℝ, (L.map (fun i => ((vf i - a1) * sd⁻¹ - (xf i - m) * a2 * sd⁻¹ ^ 3 / 2) * D i)).sum
      = sd⁻¹ * (L.map (fun i => vf i * D i)).sum + a1 * (L.map (fun k => -1 / sd * D k)).sum
        + a2 * sd⁻¹ ^ 3 * (L.map (fun k => -(1 / 2) * D k * (xf k - m))).sum := fun a1 a2 => by
    rw [← bn_sum_lin3]
    exact congrArg List.sum (List.map_congr_left fun k _ => by ring)
  have l2 : ∀ b2 b3 : ℝ, (L.map (fun i => vf i * (D i / sd + b2 * (xf i - m) / n + b3))).sum
      = sd⁻¹ * (L.map (fun i => vf i * D i)).sum + (b2 / n) * (L.map (fun k => vf k * (xf k - m))).sum
        + b3 * (L.map vf).sum := fun b2 b3 => by
    rw [← bn_sum_lin3]
    exact congrArg List.sum (List.map_congr_left fun k _ => by ring)
  simp only [bnXhatDeriv, bnTrainGrad]
  rw [l1, l2, e1]
  ring

theorem bn_rpow_neg_three_halves (y : ℝ) (hy : 0 < y) : y ^ (-((3 : ℝ) / 2)) = (Real.sqrt y)⁻¹ ^ 3 := by
  rw [Real.rpow_neg hy.le, Real.sqrt_eq_rpow, inv_pow, ← Real.rpow_natCast, ← Real.rpow_mul hy.le]
  norm_num

/-- mean and biased variance of an index function over the index list `L` of a channel: what `bnStats` computes from
    the entries of its operand -/
noncomputable def chanMean (L : List Idx) (z : Idx → ℝ) : ℝ := (L.map z).sum / ((L.length : Nat) : ℝ)
noncomputable def chanVar (L : List Idx) (z : Idx → ℝ) : ℝ :=
  (L.map (fun k => (z k - chanMean L z) * (z k - chanMean L z))).sum / ((L.length : Nat) : ℝ)

theorem bn_stats_eq (z : NDArray ℝ) (c : Nat) :
    bnStats z c = (chanMean (chanIdx z.shape c) z.get, chanVar (chanIdx z.shape c) z.get) := by
  unfold bnStats
  simp only [List.length_map, List.map_map, chanMean, chanVar, Function.comp_def]

theorem bn_hasDerivAt_center (L : List Idx) (xf vf : Idx → ℝ) (k : Idx) :
    HasDerivAt (fun t : ℝ => xf k + t * vf k - chanMean L (fun j => xf j + t * vf j)) (vf k - chanMean L vf) 0 :=
  (hasDerivAt_line (xf k) (vf k)).fun_sub
    ((hasDerivAt_list_sum L (fun j t => xf j + t * vf j) vf 0 fun j _ => hasDerivAt_line (xf j) (vf j)).div_const _)

theorem bn_hasDerivAt_chanVar (L : List Idx) (xf vf : Idx → ℝ) :
    HasDerivAt (fun t => chanVar L (fun j => xf j + t * vf j))
      ((L.map (fun k => 2 * (xf k - chanMean L xf) * (vf k - chanMean L vf))).sum / ((L.length : Nat) : ℝ)) 0 := by
  refine (hasDerivAt_list_sum L
    (fun k t => (xf k + t * vf k - chanMean L (fun j => xf j + t * vf j)) * (xf k + t * vf k - chanMean L (fun j => xf j + t * vf j)))
    _ 0 fun k _ => ?_).div_const _
  refine ((bn_hasDerivAt_center L xf vf k).fun_mul (bn_hasDerivAt_center L xf vf k)).congr_deriv ?_
  simp only [zero_mul, add_zero]
  ring

/-- quotient by a square root, with the derivative in the shape the batch-norm backward kernel computes it -/
theorem hasDerivAt_div_sqrt {f g : ℝ → ℝ} {f' g' x : ℝ} (hf : HasDerivAt f f' x) (hg : HasDerivAt g g' x)
    (hpos : 0 < g x) :
    HasDerivAt (fun t => f t / Real.sqrt (g t))
      (f' * (Real.sqrt (g x))⁻¹ - f x * g' * (Real.sqrt (g x))⁻¹ ^ 3 / 2) x := by
  have hs : Real.sqrt (g x) ≠ 0 := (Real.sqrt_pos.2 hpos).ne'
  refine (hf.div (hg.sqrt hpos.ne') hs).congr_deriv ?_
  -- the only cancellation is `f' · s / (s · s) = f' / s`
  rw [sub_div, pow_two, mul_div_mul_right _ _ hs]
  ring

theorem bn_hasDerivAt_xhat (L : List Idx) (xf vf : Idx → ℝ) (eps : ℝ) (i : Idx) (m vr : ℝ)
    (hm : m = chanMean L xf) (hvr : vr = chanVar L xf) (hpos : 0 < vr + eps) :
    HasDerivAt (fun t => (xf i + t * vf i - chanMean L (fun j => xf j + t * vf j))
        / Real.sqrt (chanVar L (fun j => xf j + t * vf j) + eps))
      (bnXhatDeriv L xf vf m (Real.sqrt (vr + eps)) ((L.length : Nat) : ℝ) i) 0 := by
  subst hm hvr
  have h := hasDerivAt_div_sqrt (bn_hasDerivAt_center L xf vf i) ((bn_hasDerivAt_chanVar L xf vf).add_const eps)
    (by simpa only [zero_mul, add_zero] using hpos)
  simp only [zero_mul, add_zero] at h
  exact h

/-- the batch statistics the training-mode forward uses -/
noncomputable def batchMean (z : NDArray ℝ) (c : Nat) : ℝ := (bnStats z c).1
noncomputable def batchVar (z : NDArray ℝ) (c : Nat) : ℝ := (bnStats z c).2

theorem batchMean_eq (z : NDArray ℝ) (c : Nat) : batchMean z c = chanMean (chanIdx z.shape c) z.get :=
  congrArg Prod.fst (bn_stats_eq z c)

theorem batchVar_eq (z : NDArray ℝ) (c : Nat) : batchVar z c = chanVar (chanIdx z.shape c) z.get :=
  congrArg Prod.snd (bn_stats_eq z c)

theorem batchVar_add_pos (x : NDArray ℝ) (c : Nat) (eps : ℝ) (heps : 0 < eps) : 0 < batchVar x c + eps := by
  rw [batchVar_eq]
  refine add_pos_of_nonneg_of_pos (div_nonneg (List.sum_nonneg fun y hy => ?_) (Nat.cast_nonneg _)) heps
  obtain ⟨k, _, rfl⟩ := List.mem_map.1 hy
  exact mul_self_nonneg _

end Proofs.NL
