import Proofs.PointwiseCalc
import Proofs.AdjointDefs
/-!
# Vector-Jacobian products of the nonlinear, non-pointwise nn ops (C02), over ℝ

For a nonlinear `F` the statement "`B g` is the vector-Jacobian product of `F` at `a`" is: for every
direction `v` and every upstream gradient `g`, the real function `t ↦ ⟪F (a + t·v), g⟫` has derivative
`⟪v, B g⟫` at `t = 0` (the pairing is non-degenerate, so this determines `B g`; for a differentiable `F`
it is `(DF a)ᵀ g`).  `IsVJPAt` bundles this with totality and the shape claim, like `IsAdjoint` does
for linear ops.
-/
namespace Proofs.NL
open Synap Synap.NDArray Synap.Np Synap.Kernels Proofs.Core Proofs.Calc

noncomputable def line (a v : NDArray ℝ) (t : ℝ) : NDArray ℝ := zipSame (fun x y => x + t * y) a v

/-- `B g` is the vector-Jacobian product of `F` at `a` (outputs of shape `sy`) -/
def IsVJPAt (F : NDArray ℝ → Option (NDArray ℝ)) (a : NDArray ℝ) (sy : Shape)
    (B : NDArray ℝ → Option (NDArray ℝ)) : Prop :=
  ∀ v g : NDArray ℝ, v.WF → v.shape = a.shape → g.WF → g.shape = sy →
    (∀ t : ℝ, ∃ y, F (line a v t) = some y ∧ y.WF ∧ y.shape = sy) ∧
    ∃ b, B g = some b ∧ b.WF ∧ b.shape = a.shape ∧
      HasDerivAt (fun t : ℝ => ((F (line a v t)).map (fun y => dot y g)).getD 0) (dot v b) 0

end Proofs.NL
