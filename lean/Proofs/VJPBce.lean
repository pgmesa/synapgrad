import Proofs.VJPDefs
import Proofs.AdjointBroadcast
/-! # The binary cross-entropies entry by entry (C02), over ℝ: the scalar the forward kernel evaluates, its derivative, and
    the factor the backward kernel uses; the forward value of max-pool 2d -/
namespace Proofs.NL
open Synap Synap.NDArray Synap.Kernels Proofs.Core Proofs.Calc

theorem bce_epsilon_pos : (0 : ℝ) < (epsilon : ℝ) := by
  norm_num [epsilon]

/-- the scalar the forward kernel evaluates, including its clamp at the level `−log ε` -/
noncomputable def bceScalar (pv tv : ℝ) : ℝ :=
  let l := -(tv * Real.log (pv + (epsilon : ℝ)) + (1 - tv) * Real.log (1 - pv + (epsilon : ℝ)))
  if l = -(Real.log (epsilon : ℝ)) then 100 else l
/-- the factor the backward kernel multiplies the upstream gradient by -/
noncomputable def bceFactor (pv tv : ℝ) : ℝ := -((-(1 - tv) / ((1 - pv) + (epsilon : ℝ))) + tv / (pv + (epsilon : ℝ)))

/-- `np.where(loss == c, 100, loss)`, with the equality spelt "neither smaller nor larger" -/
theorem bce_clamp_eq (l c : ℝ) :
    (if ¬ l < c ∧ ¬ c < l then (((100 : Nat) : ℝ)) else l) = if l = c then 100 else l := by
  simp only [not_lt, ← le_antisymm_iff, Nat.cast_ofNat, eq_comm (a := c)]

theorem bceForward_eq (p t : NDArray ℝ) (s : Shape) (hs : broadcastShapes p.shape t.shape = some s) :
    bceForward p t = some (ofFn s fun j => bceScalar (p.get (bcastIdx p.shape j)) (t.get (bcastIdx t.shape j))) := by
  rw [bceForward, Proofs.Adjoint.bcast2_some _ p t s hs]
  exact congrArg some ((map_ofFn _ _ _).trans (congrArg (ofFn s) (funext fun j => bce_clamp_eq _ _)))

theorem bce_scalar_deriv (pv tv : ℝ) (h1 : pv + (epsilon : ℝ) ≠ 0) (h2 : 1 - pv + (epsilon : ℝ) ≠ 0)
    (hc : -(tv * Real.log (pv + (epsilon : ℝ)) + (1 - tv) * Real.log (1 - pv + (epsilon : ℝ))) ≠ -(Real.log (epsilon : ℝ))) :
    HasDerivAt (fun x => bceScalar x tv) (bceFactor pv tv) pv := by
  have d1 : HasDerivAt (fun x : ℝ => x + (epsilon : ℝ)) 1 pv := (hasDerivAt_id' pv).add_const _
  have d2 : HasDerivAt (fun x : ℝ => 1 - x + (epsilon : ℝ)) (-1) pv :=
    ((hasDerivAt_id' pv).const_sub 1).add_const _
  have d4 : HasDerivAt
      (fun x : ℝ => -(tv * Real.log (x + (epsilon : ℝ)) + (1 - tv) * Real.log (1 - x + (epsilon : ℝ))))
      (bceFactor pv tv) pv :=
    (((d1.log h1).const_mul tv).add ((d2.log h2).const_mul (1 - tv))).neg.congr_deriv (by unfold bceFactor; ring)
  have hev := d4.continuousAt.eventually_ne hc
  refine d4.congr_of_eventuallyEq (hev.mono fun x hx => ?_)
  exact if_neg hx

/-! ### binary cross-entropy with logits: the kernel keeps an `ε` in one denominator, so its factor is the
    derivative up to `ε` -/

noncomputable def bceLogitsScalar (xv yv : ℝ) : ℝ :=
  let tn := maxS 0 (-xv)
  (1 - yv) * xv + tn + Real.log (Real.exp (-tn) + Real.exp (-xv - tn))
noncomputable def bceLogitsFactor (xv yv : ℝ) : ℝ :=
  let tn := maxS 0 (-xv)
  let dtn : ℝ := if 0 < tn then -1 else 0
  let e1 := Real.exp (-tn)
  let e2 := Real.exp (-xv - tn)
  (1 - yv) + dtn + ((-dtn) * e1 + (-1 - dtn) * e2) / ((e1 + e2) + (epsilon : ℝ))

/-- moving the denominator `1 + E` by `ε` moves the quotient by `E/(1+E) · ε/(1+E+ε) ≤ 1 · ε` -/
theorem bce_frac_close (E ε : ℝ) (hE : 0 < E) (hε : 0 < ε) : |E / (1 + E + ε) - E / (1 + E)| ≤ ε := by
  have h1 : (0 : ℝ) < 1 + E := add_pos one_pos hE
  have h2 : (0 : ℝ) < 1 + E + ε := add_pos h1 hε
  have h : E / (1 + E) - E / (1 + E + ε) = E / (1 + E) * (ε / (1 + E + ε)) := by
    rw [div_mul_div_comm, div_sub_div _ _ h1.ne' h2.ne']
    congr 1; ring
  rw [abs_sub_comm, h, abs_of_nonneg (mul_nonneg (div_pos hE h1).le (div_pos hε h2).le)]
  exact (mul_le_of_le_one_left (div_pos hε h2).le ((div_le_one h1).2 (le_add_of_nonneg_left zero_le_one))).trans
    (div_le_self hε.le (le_add_of_le_of_nonneg (le_add_of_nonneg_right hE.le) hε.le))

/-- the stabilised form equals the plain `softplus` form -/
theorem bce_logits_scalar_eq (tn x y : ℝ) :
    (1 - y) * x + tn + Real.log (Real.exp (-tn) + Real.exp (-x - tn)) = (1 - y) * x + Real.log (1 + Real.exp (-x)) := by
  have h : Real.exp (-tn) + Real.exp (-x - tn) = Real.exp (-tn) * (1 + Real.exp (-x)) := by
    rw [sub_eq_add_neg, Real.exp_add]; ring
  rw [h, Real.log_mul (Real.exp_pos _).ne' (by positivity), Real.log_exp]
  ring

/-- `log (1 + e^{-x}) = −log (sigmoid x)`, and `sigmoid' = sigmoid · (1 − sigmoid)` with `1 − sigmoid x = sigmoid (−x)` -/
theorem bce_logits_scalar_deriv (xv yv : ℝ) :
    HasDerivAt (fun x => bceLogitsScalar x yv) ((1 - yv) - 1 / (1 + Real.exp xv)) xv := by
  have e : (fun x => bceLogitsScalar x yv) = fun x => (1 - yv) * x - Real.log (Real.sigmoid x) :=
    funext fun x => (bce_logits_scalar_eq _ x yv).trans (by rw [Real.sigmoid_def, Real.log_inv, sub_neg_eq_add])
  rw [e]
  refine (((hasDerivAt_id xv).const_mul (1 - yv)).sub
    ((Real.hasDerivAt_sigmoid xv).log (Real.sigmoid_pos xv).ne')).congr_deriv ?_
  rw [mul_one, mul_div_cancel_left₀ _ (Real.sigmoid_pos xv).ne', ← Real.sigmoid_neg, Real.sigmoid_def, neg_neg, one_div]

theorem bce_logits_factor_close (xv yv : ℝ) :
    |bceLogitsFactor xv yv - ((1 - yv) - 1 / (1 + Real.exp xv))| ≤ (epsilon : ℝ) := by
  unfold bceLogitsFactor
  rw [maxS_eq_max]
  -- for either sign of `xv`, with `E = e^{-|xv|}`: the kernel's quotient is `E / (1 + E + ε)` where the derivative has
  -- `E / (1 + E)` (`key`), and `bce_frac_close` bounds the difference
  have hE : (0 : ℝ) < Real.exp xv := Real.exp_pos xv
  by_cases hx : 0 ≤ xv
  · rw [max_eq_left (neg_nonpos.2 hx)]
    have key : 1 / (1 + Real.exp xv) = Real.exp (-xv) / (1 + Real.exp (-xv)) := by
      rw [div_eq_mul_inv (Real.exp (-xv)), ← Real.sigmoid_def, mul_comm, Real.sigmoid_mul_rexp_neg, Real.sigmoid_def,
        neg_neg, one_div]
    simp only [lt_irrefl, if_false, neg_zero, Real.exp_zero, sub_zero]
    rw [key]
    rw [← abs_neg]
    refine le_of_eq_of_le (congrArg abs ?_) (bce_frac_close (Real.exp (-xv)) _ (Real.exp_pos _) bce_epsilon_pos)
    ring
  · have hx' : xv < 0 := not_le.mp hx
    rw [max_eq_right (neg_nonneg.2 hx'.le)]
    have key : 1 / (1 + Real.exp xv) = 1 - Real.exp xv / (1 + Real.exp xv) := by
      rw [one_sub_div (add_pos one_pos hE).ne', add_sub_cancel_right]
    simp only [if_pos (neg_pos.2 hx'), neg_neg, sub_self, Real.exp_zero]
    rw [key]
    refine le_of_eq_of_le (congrArg abs ?_) (bce_frac_close (Real.exp xv) _ hE bce_epsilon_pos)
    ring

variable {K : Type} [Field K] [LinearOrder K] [IsStrictOrderedRing K]

/-- forward value of max-pool 2d: the `firstMax` of the window, `negInf` only for a window without a real entry -/
theorem maxpool2d_forward_spec (x y : NDArray K) (negInf : K) (k s p d : Nat × Nat) (n c h w lh lw : Nat) (hx : x.shape = [n, c, h, w])
    (hlh : convOut h k.1 s.1 p.1 d.1 = some lh) (hlw : convOut w k.2 s.2 p.2 d.2 = some lw)
    (hy : maxPool2dForward x negInf k s p d = some y) :
    y.shape = [n, c, lh, lw] ∧ ∀ bn cc th tw, bn < n → cc < c → th < lh → tw < lw →
      y.get [bn, cc, th, tw] =
        (match firstMax ((win2 h w k s p d th tw).map (fun o => o.map (fun (q : Nat × Nat) => x.get [bn, cc, q.1, q.2]))) with
         | some (v, _) => v | none => negInf) := by
  unfold maxPool2dForward poolGeom2 at hy
  rw [hx] at hy
  simp only [hlh, hlw, Option.bind_eq_bind, Option.bind_some, Option.pure_def,
    Option.some.injEq] at hy
  subst hy
  refine ⟨rfl, fun bn cc th tw h1 h2 h3 h4 => ?_⟩
  rw [get_ofFn _ _ _ (by simp [validIdx, h1, h2, h3, h4])]
  rfl

end Proofs.NL
