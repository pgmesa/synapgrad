/-!
# Lookup by key in an insertion-ordered association list

Python's `OrderedDict` appears twice in the model: the registries of a module (`Synap.Modules.odSet`) and the history dictionary
of `fit` (`Synap.Train.recordOne`).  Both look a key up with `find?` and update in place with `map`.  Also here, since the file imports
nothing: the one fact about "update one position of a list" (`getElem?_zipIdx_map_ite`) that the engine (`setGrad`), the module world
(`updMod`, `updPar`) and the optimizer (`modifyAt`) share.
-/
namespace List
variable {β : Type}

theorem find?_key_map (f : String × β → String × β) (hf : ∀ e, (f e).1 = e.1) (l : List (String × β)) (k : String) :
    (l.map f).find? (·.1 == k) = (l.find? (·.1 == k)).map f := by
  rw [List.find?_map]
  congr 2; funext e; simp [hf]

theorem find?_key_eq_none {l : List (String × β)} {k : String} :
    l.find? (·.1 == k) = none ↔ l.any (·.1 == k) = false := by
  simp

/-- lookup after "rewrite the value under `k` where it stands, or append a new entry": the new value is `G` of the old one -/
theorem lookup_upsert {k : String} (G : Option β → β) (F : String × β → String × β)
    (hF : ∀ e, F e = if e.1 = k then (k, G (some e.2)) else e) (l : List (String × β)) (n : String) :
    ((if l.any (·.1 == k) then l.map F else l ++ [(k, G none)]).find? (·.1 == n)).map (·.2) =
      if n = k then some (G ((l.find? (·.1 == k)).map (·.2))) else (l.find? (·.1 == n)).map (·.2) := by
  split
  · next hany =>
    have hkey : ∀ e, (F e).1 = e.1 := fun e => by
      rw [hF]; split
      · next h => exact h.symm
      · rfl
    rw [find?_key_map F hkey]
    cases hf : l.find? (·.1 == n) with
    | none =>
      rw [if_neg]; · rfl
      rintro rfl; rw [find?_key_eq_none.mp hf] at hany; cases hany
    | some e =>
      have he := List.find?_some hf
      obtain rfl : e.1 = n := eq_of_beq he
      rw [Option.map_some, hF]
      split
      · next h => rw [← h, hf]; rfl
      · rfl
  · next hany =>
    rw [List.find?_append, List.find?_singleton]
    by_cases h : n = k
    · rw [h, if_pos rfl, if_pos (beq_self_eq_true k), find?_key_eq_none.mpr (Bool.eq_false_iff.mpr hany)]; rfl
    · rw [if_neg h, if_neg (fun e => h (eq_of_beq e).symm), Option.or_none]

theorem filter_key_of_nodup {l : List (String × β)} (hnd : (l.map (·.1)).Nodup) {e : String × β} (he : e ∈ l) :
    l.filter (·.1 == e.1) = [e] := by
  induction l with
  | nil => cases he
  | cons a t ih =>
    obtain ⟨hn, hnd⟩ := List.nodup_cons.mp hnd
    rw [List.filter_cons]
    rcases List.mem_cons.mp he with rfl | h
    · rw [if_pos (beq_self_eq_true e.1),
        List.filter_eq_nil_iff.mpr fun m hm hk => hn (List.mem_map.mpr ⟨m, hm, eq_of_beq hk⟩)]
    · rw [if_neg fun hk => hn (List.mem_map.mpr ⟨e, h, (eq_of_beq hk).symm⟩), ih hnd h]
/-- the model rewrites one position of a list as `zipIdx.map` with a test on the index -/
theorem getElem?_zipIdx_map_ite {α : Type} (l : List α) (m : Nat) (f : α → α) (k : Nat) :
    (l.zipIdx.map (fun (x, i) => if i = m then f x else x))[k]? = (l[k]?).map (fun x => if k = m then f x else x) := by
  simp only [List.getElem?_map, List.getElem?_zipIdx]
  cases l[k]? <;> simp

end List
