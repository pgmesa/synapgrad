import SynapModel.Api
import SynapModel.Generated.EngineLogic
/-!
# The decision logic of `tensor.py`, as read on this run, is the decision logic of the engine model — creation rule, flag setters, grad-mode contexts, dispatch surface (C07)

How the ties are made is said in `EngineLogicTraversal.lean`.
-/
set_option linter.unusedSectionVars false
namespace Proofs.EngineLogicTie
open Synap Synap.Engine Synap.Gen.Engine

theorem is_leaf_is_model (n : Node G) :
    n.isLeaf = is_leaf (self_requires_grad := n.reqGrad) (self_grad_fn_is_None := n.back.isNone) := by
  rfl

section Api
variable {α : Type} [Zero α]
open Synap.Api

theorem mkTensor_uses_src (st : TState α) (v : NDArray α) (dt : DType) (requiresGrad : Bool) (children : List Nat)
    (back : Option (NDArray α → Option (List (Option (NDArray α))))) :
    mkTensor st v dt requiresGrad children back =
      (let rg := creation_req_grad (requires_grad := requiresGrad) (gradient__ := st.modes.grad)
       if creation_rejects (req_grad := rg) (self_is_floating_point := dt.isFloat) then none else
       let node : Node (NDArray α) :=
         { children := if creation_keeps_children (req_grad := rg) then children else [], reqGrad := rg,
           back := if rg then back else none, retain := false, grad := none, zero := NDArray.zeros v.shape }
       some ({ st with g := st.g ++ [node], vals := st.vals ++ [v], dtypes := st.dtypes ++ [dt] }, st.g.length)) := by
  rfl

theorem setRequiresGrad_uses_src (st : TState α) (i : Nat) (v : Bool) (n : Node (NDArray α)) (dt : DType)
    (hn : st.g[i]? = some n) (hd : st.dtypes[i]? = some dt) :
    setRequiresGrad st i v =
      if set_requires_grad_rejects_nonleaf (self_is_leaf := n.isLeaf) then none
      else if set_requires_grad_rejects_dtype (value := v) (self_is_floating_point := dt.isFloat) then none
      else some { st with g := st.g.zipIdx.map (fun (m, k) => if k = i then { m with reqGrad := v } else m) } := by
  unfold setRequiresGrad set_requires_grad_rejects_nonleaf set_requires_grad_rejects_dtype
  rw [hn, hd]

theorem retainGrad_uses_src (st : TState α) (i : Nat) (n : Node (NDArray α)) (hn : st.g[i]? = some n) :
    retainGrad st i =
      if retain_grad_rejects (self_requires_grad := n.reqGrad) then none
      else some { st with g := st.g.zipIdx.map (fun (m, k) => if k = i then { m with retain := true } else m) } := by
  unfold retainGrad retain_grad_rejects
  rw [hn]

end Api

theorem ctxNew_uses_src (m : Modes) :
    (ctxNew m .noGrad).prev = (no_grad_init m.grad false).2 ∧ (ctxNew m .retainGrads).prev = (retain_grads_init m.retain false).2 :=
  ⟨rfl, rfl⟩

theorem ctxEnter_uses_src (m : Modes) (c : Ctx) :
    ctxEnter m c = match c.kind with
      | .noGrad => ({ m with grad := (no_grad_enter m.grad c.prev).1 }, { c with prev := (no_grad_enter m.grad c.prev).2 })
      | .retainGrads => ({ m with retain := (retain_grads_enter m.retain c.prev).1 }, { c with prev := (retain_grads_enter m.retain c.prev).2 }) := by
  rfl

theorem ctxExit_uses_src (m : Modes) (c : Ctx) :
    ctxExit m c = match c.kind with
      | .noGrad => { m with grad := (no_grad_exit m.grad c.prev).1 }
      | .retainGrads => { m with retain := (retain_grads_exit m.retain c.prev).1 } := by
  rfl

def inplaceOperators : List String :=
  ["__iadd__", "__isub__", "__imul__", "__itruediv__", "__ifloordiv__", "__imod__", "__ipow__", "__imatmul__",
   "__iand__", "__ior__", "__ixor__", "__ilshift__", "__irshift__"]

theorem tensor_defines_no_inplace_operator : ∀ m ∈ inplaceOperators, m ∉ tensorMethods := by decide +kernel

/-- attribute hooks that would bypass the property setters of the flags -/
theorem tensor_defines_no_attribute_hook :
    "__setattr__" ∉ tensorMethods ∧ "__getattr__" ∉ tensorMethods ∧ "__getattribute__" ∉ tensorMethods ∧ "__new__" ∉ tensorMethods ∧
    tensorBases = [] := by decide +kernel

theorem parameter_is_created_by_tensor_init :
    parameterBases = ["Tensor"] ∧ "__init__" ∉ parameterMethods ∧ "__new__" ∉ parameterMethods ∧ "requires_grad" ∉ parameterMethods ∧
    "__setattr__" ∉ parameterMethods ∧ "is_leaf" ∉ parameterMethods ∧ "backward" ∉ parameterMethods := by decide +kernel

end Proofs.EngineLogicTie
