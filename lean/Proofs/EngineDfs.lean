import Proofs.EngineBasic
/-!
# The traversal phase of `backward`: what `visit` does

Two inductions over `visit` through `visit_rule`, which between them describe the state after the traversal exactly:
* order (`visit_order`): the post-order invariants, plus closure of the visited set under a predicate;
* gradient buffers, trace and counts (`visit_grads`): every node (`Met`) and the whole trace (`zs`) as functions
  of the initial graph and the visited list;
and `visit_rel`: two runs on graphs with the same `children` visit and list the same nodes in the same order.
-/
namespace Proofs.Engine
open Synap.Engine

variable {G : Type}

/-- `c` occurs strictly before `u` in `l` (same as `BeforeIn` of `EngineStruct`) -/
def Before (l : List Nat) (c u : Nat) : Prop := ∃ l1 l2, l = l1 ++ u :: l2 ∧ c ∈ l1

theorem Before.append {l : List Nat} {c u : Nat} (h : Before l c u) (t : List Nat) :
    Before (l ++ t) c u := by
  obtain ⟨l1, l2, rfl, hc⟩ := h
  exact ⟨l1, l2 ++ t, by simp, hc⟩

theorem Before.last {l : List Nat} {c : Nat} (h : c ∈ l) (u : Nat) : Before (l ++ [u]) c u :=
  ⟨l, [], rfl, h⟩

theorem Topo.before {ch : Nat → List Nat} {l : List Nat} (h : Topo ch l.reverse) :
    ∀ u ∈ l, ∀ c ∈ ch u, Before l c u := by
  rw [← List.reverse_reverse l]
  generalize l.reverse = r at h
  induction r with
  | nil => intro u hu; cases hu
  | cons a t ih =>
    intro u hu c hc
    rw [List.reverse_cons] at hu ⊢
    rcases List.mem_append.mp hu with hu | hu
    · exact (ih h.2.2 u hu c hc).append _
    · cases List.mem_singleton.mp hu
      exact Before.last (List.mem_reverse.mpr (h.2.1 c hc)) a

abbrev St := List Nat × List Nat   -- (visited, ordered)

def pr (s : DfsSt G) : St := (s.visited, s.ordered)

theorem pr_enc (s : DfsSt G) (c : Nat) : pr (enc s c) = pr s := by simp [pr]

/-- the post-order so far, in the form the sweep uses (`Topo.before` gives the other); `R` is any predicate closed
    under `children` (in the end: reachable from the root) -/
def DfsInv (ch : Nat → List Nat) (R : Nat → Prop) (s : St) : Prop :=
  (∀ x ∈ s.2, x ∈ s.1) ∧ (∀ x ∈ s.1, R x) ∧ Topo ch s.2.reverse

/-- gray (visited, not yet listed) nodes are ≥ b.  The gray nodes are the callers on the recursion stack, and
    operands have smaller indices than results: so all of them lie above the node being visited, and an operand
    found visited is already listed. -/
def GB (b : Nat) (s : St) : Prop := ∀ x ∈ s.1, x ∉ s.2 → b ≤ x

/-- what any call of `visit` does to (visited, ordered), whatever its node -/
def Mono (s s' : St) : Prop :=
  (∃ new, s'.2 = s.2 ++ new) ∧ (∀ x ∈ s.1, x ∈ s'.1) ∧
  (∀ x ∈ s'.2, x ∈ s.2 ∨ x ∉ s.1) ∧ (∀ x ∈ s'.1, x ∉ s'.2 → x ∈ s.1 ∧ x ∉ s.2)

theorem Mono.refl (s : St) : Mono s s :=
  ⟨⟨[], by simp⟩, fun _ h => h, fun _ h => Or.inl h, fun _ h1 h2 => ⟨h1, h2⟩⟩

theorem Mono.trans {a b c : St} (h1 : Mono a b) (h2 : Mono b c) : Mono a c := by
  obtain ⟨⟨n1, e1⟩, v1, l1, g1⟩ := h1
  obtain ⟨⟨n2, e2⟩, v2, l2, g2⟩ := h2
  refine ⟨⟨n1 ++ n2, by rw [e2, e1, List.append_assoc]⟩, fun x h => v2 x (v1 x h), ?_, ?_⟩
  · intro x hx
    rcases l2 x hx with h | h
    · exact l1 x h
    · exact Or.inr (fun hx1 => h (v1 x hx1))
  · intro x hx hnx
    obtain ⟨hb1, hb2⟩ := g2 x hx hnx
    exact g1 x hb1 hb2

theorem GB.mono {b : Nat} {s s' : St} (h : GB b s) (m : Mono s s') : GB b s' := by
  intro x hx hnx
  obtain ⟨h1, h2⟩ := m.2.2.2 x hx hnx
  exact h x h1 h2

theorem mem_of_mono {s s' : St} (m : Mono s s') {x : Nat} (h : x ∈ s.2) : x ∈ s'.2 := by
  obtain ⟨⟨n, e⟩, _⟩ := m
  rw [e]; exact List.mem_append_left _ h

theorem visit_order (ns0 : Graph G) (hw : ∀ u c, c ∈ chOf ns0 u → c < u)
    (R : Nat → Prop) (hR : ∀ u c, R u → c ∈ chOf ns0 u → R c)
    (f v : Nat) (s : DfsSt G) (hv : v < f) (hs : Skel ns0 s.ns)
    (hI : DfsInv (chOf ns0) R (pr s)) (hG : GB (v+1) (pr s)) (hRv : R v) :
    DfsInv (chOf ns0) R (pr (visit f v s)) ∧ v ∈ (visit f v s).ordered ∧ Mono (pr s) (pr (visit f v s)) := by
  refine visit_rule ns0 hw
    (fun v s => DfsInv (chOf ns0) R (pr s) ∧ GB (v+1) (pr s) ∧ R v)
    (fun v s s' => DfsInv (chOf ns0) R (pr s') ∧ v ∈ s'.ordered ∧ Mono (pr s) (pr s'))
    (fun v s cs t => v ∉ s.visited ∧ DfsInv (chOf ns0) R (pr s) ∧ R v ∧ DfsInv (chOf ns0) R (pr t) ∧
      GB v (pr t) ∧ Mono (v :: s.visited, s.ordered) (pr t) ∧ (∀ c ∈ chOf ns0 v, c ∈ cs ∨ c ∈ t.ordered))
    ?hvis ?hinit ?hstep ?hfin f v s hv hs ⟨hI, hG, hRv⟩
  case hvis =>
    rintro v s ⟨hI, hG, _⟩ hvis
    refine ⟨hI, ?_, Mono.refl _⟩
    exact Decidable.byContradiction fun hn => Nat.not_succ_le_self v (hG v hvis hn)
  case hinit =>
    rintro v s _ ⟨hI, hG, hRv⟩ hvis
    refine ⟨hvis, hI, hRv, ⟨fun x hx => List.mem_cons_of_mem _ (hI.1 x hx), ?_, hI.2.2⟩, ?_,
      Mono.refl _, fun c hc => Or.inl hc⟩
    · intro x hx
      rcases List.mem_cons.mp hx with rfl | h
      · exact hRv
      · exact hI.2.1 x h
    · intro x hx hnx
      rcases List.mem_cons.mp hx with rfl | h
      · exact Nat.le_refl _
      · exact Nat.le_of_succ_le (hG x h hnx)
  case hstep =>
    rintro v s c cs t hc ⟨hvis, hIs, hRv, hIt, hGt, hMt, hch⟩
    have hcv : c < v := hw v c hc
    refine ⟨⟨by rw [pr_enc]; exact hIt, ?_, hR v c hRv hc⟩, ?_⟩
    · rw [pr_enc]; intro x hx hnx; exact Nat.le_trans hcv (hGt x hx hnx)
    · rintro t' ⟨hI', hmem, hM'⟩
      rw [pr_enc] at hM'
      refine ⟨hvis, hIs, hRv, hI', hGt.mono hM', hMt.trans hM', ?_⟩
      intro c' hc'
      rcases hch c' hc' with h | h
      · rcases List.mem_cons.mp h with rfl | h
        · exact Or.inr hmem
        · exact Or.inl h
      · exact Or.inr (mem_of_mono hM' h)
  case hfin =>
    rintro v s t ⟨hvis, hI, hRv, hI', _, hM', hmem'⟩
    obtain ⟨⟨new, enew⟩, hv1, hl, hg⟩ := hM'
    have hvs' : v ∈ t.visited := hv1 v List.mem_cons_self
    have hvn : v ∉ t.ordered := fun h => (hl v h).elim (fun h => hvis (hI.1 v h)) (fun h => h List.mem_cons_self)
    have hmem : ∀ c ∈ chOf ns0 v, c ∈ t.ordered := fun c hc => (hmem' c hc).resolve_left List.not_mem_nil
    have hsplit : ∀ {x}, x ∈ t.ordered ++ [v] → x ∈ t.ordered ∨ x = v :=
      fun h => (List.mem_append.mp h).imp_right List.mem_singleton.mp
    refine ⟨⟨?listed_visited, hI'.2.1, ?topo⟩, List.mem_append_right _ List.mem_cons_self,
      ⟨⟨new ++ [v], ?ordered_ext⟩, ?visited_mono, ?listed_fresh, ?gray_old⟩⟩
    case listed_visited =>
      intro x hx
      rcases hsplit hx with h | rfl
      · exact hI'.1 x h
      · exact hvs'
    case topo =>
      show Topo _ (t.ordered ++ [v]).reverse
      rw [List.reverse_append]
      exact ⟨fun h => hvn (List.mem_reverse.mp h), fun c hc => List.mem_reverse.mpr (hmem c hc), hI'.2.2⟩
    case ordered_ext =>
      show t.ordered ++ [v] = s.ordered ++ (new ++ [v])
      rw [show t.ordered = s.ordered ++ new from enew, List.append_assoc]
    case visited_mono => exact fun x hx => hv1 x (List.mem_cons_of_mem _ hx)
    case listed_fresh =>
      intro x hx
      rcases hsplit hx with h | rfl
      · exact (hl x h).imp_right (fun h' hx1 => h' (List.mem_cons_of_mem _ hx1))
      · exact Or.inr hvis
    case gray_old =>
      intro x hx hnx
      obtain ⟨h1, h2⟩ := hg x hx (fun h => hnx (List.mem_append_left _ h))
      rcases List.mem_cons.mp h1 with rfl | h
      · exact absurd (List.mem_append_right _ List.mem_cons_self) hnx
      · exact ⟨h, h2⟩

/-- the buffer an operand requiring grad holds after the traversal -/
def expG (n : Node G) : Option G := if n.isLeaf then some (n.grad.getD n.zero) else some n.zero

/-- buffers once the operands in `X` have been met: `expG` of the initial node where it requires grad, the
    initial buffer everywhere else (`Met` says the same of whole nodes, as an equation) -/
def GI (ns0 : Graph G) (X : Nat → Prop) (ns : Graph G) : Prop :=
  ∀ k n n', ns0[k]? = some n → ns[k]? = some n' →
    (X k ∧ n.reqGrad = true → n'.grad = expG n) ∧ (¬ (X k ∧ n.reqGrad = true) → n'.grad = n.grad)

/-- is the buffer of operand `k` (re)initialised when the traversal first meets it? -/
def zeroed (ns0 : Graph G) (k : Nat) : Bool :=
  match ns0[k]? with | some n => n.reqGrad && (n.grad.isNone || !n.isLeaf) | none => false

/-- the zero-initialisation events of a list of operands met for the first time -/
def zs (ns0 : Graph G) (root : Nat) (l : List Nat) : List TrEv :=
  (l.filter (fun k => k ≠ root && zeroed ns0 k)).map TrEv.zero

theorem zs_append (ns0 : Graph G) (root : Nat) (a b : List Nat) :
    zs ns0 root (a ++ b) = zs ns0 root a ++ zs ns0 root b := by simp [zs]

theorem zs_single (ns0 : Graph G) (root c : Nat) :
    zs ns0 root [c] = if c ≠ root ∧ zeroed ns0 c = true then [TrEv.zero c] else [] := by
  simp only [zs, List.filter_cons, List.filter_nil, Bool.and_eq_true, decide_eq_true_eq,
    apply_ite (List.map TrEv.zero), List.map_cons, List.map_nil]

/-- the node the traversal leaves where the initial graph holds `n`: an operand that requires grad holds
    `expG n` once it has been met (`X`) -/
def metNode (n : Node G) (X : Prop) [Decidable X] : Node G :=
  if X ∧ n.reqGrad = true then { n with grad := expG n } else n

/-- the graph during the traversal, node by node, as a function of the initial graph and the visited list -/
def Met (ns0 : Graph G) (root : Nat) (vis : List Nat) (ns : Graph G) : Prop :=
  ∀ k : Nat, ns[k]? = (ns0[k]?).map (fun n => metNode n (k ∈ vis ∧ k ≠ root))

theorem Met.congr {ns0 ns : Graph G} {root : Nat} {a b : List Nat} (h : ∀ k, k ∈ a ↔ k ∈ b)
    (hg : Met ns0 root a ns) : Met ns0 root b ns := by
  intro k; rw [hg k]; simp only [h k]

theorem metNode_congr (n : Node G) {X Y : Prop} [Decidable X] [Decidable Y] (h : X ↔ Y) :
    metNode n X = metNode n Y := by
  simp only [h]

theorem Met.gi {ns0 ns : Graph G} {root : Nat} {vis : List Nat} (h : Met ns0 root vis ns) :
    GI ns0 (fun k => k ∈ vis ∧ k ≠ root) ns := by
  intro k n n' h0 h1
  rw [h k, h0] at h1
  cases h1
  exact ⟨fun hX => by simp only [metNode, if_pos hX], fun hX => by simp only [metNode, if_neg hX]⟩

/-- meeting an operand for the first time is the zero-initialisation test -/
theorem metNode_true (n : Node G) :
    metNode n True = if n.reqGrad && (n.grad.isNone || !n.isLeaf) then { n with grad := some n.zero } else n := by
  obtain ⟨ch, rq, bk, rt, gr, z⟩ := n
  cases rq
  · rfl
  · cases gr <;> cases bk <;> rfl

/-- an operand met before is not initialised again -/
theorem encCond_metNode (t : DfsSt G) (c : Nat) (n : Node G) (hv : c ∈ t.visited) :
    encCond t c (metNode n True) = false := by
  obtain ⟨ch, rq, bk, rt, gr, z⟩ := n
  rw [encCond, List.contains_iff_mem.mpr hv]
  cases rq
  · rfl
  · cases bk <;> rfl

theorem enc_of_get {s : DfsSt G} {c : Nat} {n : Node G} (h : s.ns[c]? = some n) :
    enc s c = if encCond s c n then { s with ns := setGrad s.ns c (some n.zero), trace := s.trace ++ [TrEv.zero c] } else s := by
  simp [enc, h]

/-- what `enc` does to operand `c`, decided by the initial node: an operand not yet visited still holds its
    initial buffer, a visited one has been given a buffer -/
theorem enc_met (ns0 : Graph G) (root : Nat) (t : DfsSt G) (c : Nat) (hc : c ≠ root)
    (hg : Met ns0 root t.visited t.ns) :
    Met ns0 root (c :: t.visited) (enc t c).ns ∧
      (enc t c).trace = t.trace ++ (if c ∈ t.visited then [] else zs ns0 root [c]) := by
  -- away from `c` nothing changes: what remains is the node at `c` and the trace
  suffices key : (enc t c).ns[c]? = (ns0[c]?).map (fun n => metNode n True) ∧
      (enc t c).trace = t.trace ++ (if c ∈ t.visited then [] else zs ns0 root [c]) by
    refine ⟨fun k => ?_, key.2⟩
    by_cases hk : k = c
    · subst hk; rw [key.1]; simp only [List.mem_cons_self, hc, ne_eq, not_false_eq_true, and_self]
    · have : (enc t c).ns[k]? = t.ns[k]? := by
        rcases enc_cases t c with e | ⟨_, _, _, e⟩ <;> rw [e]
        exact getElem?_setGrad_ne _ _ _ _ hk
      rw [this, hg k]; simp only [List.mem_cons, hk, false_or]
  cases h0 : ns0[c]? with
  | none =>
    have e : enc t c = t := by simp only [enc, hg c, h0, Option.map_none]
    exact ⟨by rw [e, hg c, h0]; rfl, by simp [e, zs_single, zeroed, h0]⟩
  | some n =>
    have hn := hg c
    rw [h0, Option.map_some] at hn
    rw [Option.map_some]
    by_cases hv : c ∈ t.visited
    · rw [metNode_congr n (show c ∈ t.visited ∧ c ≠ root ↔ True from iff_true_intro ⟨hv, hc⟩)] at hn
      rw [enc_of_get hn, encCond_metNode t c n hv, if_neg Bool.false_ne_true, if_pos hv, List.append_nil]
      exact ⟨hn, rfl⟩
    · rw [show metNode n (c ∈ t.visited ∧ c ≠ root) = n from if_neg (fun h => hv h.1.1)] at hn
      have hz : zeroed ns0 c = (n.reqGrad && (n.grad.isNone || !n.isLeaf)) := by rw [zeroed, h0]
      have he : encCond t c n = zeroed ns0 c := by simp [hz, encCond, hv]
      rw [enc_of_get hn, he, metNode_true, ← hz, zs_single, if_neg hv]
      cases zeroed ns0 c
      · simp only [hn, Bool.false_eq_true, and_false, if_false, List.append_nil, and_self]
      · simp only [getElem?_setGrad_self, hn, hc, ne_eq, not_false_eq_true, and_self, if_true, Option.map_some]

/-- the postcondition of `visit_grads`; `T0` is the trace before the traversal began -/
structure VisitPost (ns0 : Graph G) (root : Nat) (T0 : List TrEv) (v : Nat) (s s' : DfsSt G) : Prop where
  met : Met ns0 root s'.visited s'.ns
  mem : v ∈ s'.visited
  sub : ∀ x ∈ s.visited, x ∈ s'.visited
  tr : s'.trace = T0 ++ zs ns0 root s'.visited.reverse
  /-- the call lists as many nodes as it marks; said for any number `g` of gray nodes, so that calls compose -/
  ord : ∀ g, s.visited.length = s.ordered.length + g → s'.visited.length = s'.ordered.length + g

/-- The zero-initialisation events are the pre-order (the order in which nodes enter `visited`) filtered by
    `zeroed`; the event for `v` is emitted by the caller just before `v` is visited, hence the last term of `ht`,
    and the caller has already met `v`, hence `v :: s.visited` in `hg`. -/
theorem visit_grads (ns0 : Graph G) (hw : ∀ u c, c ∈ chOf ns0 u → c < u) (root : Nat) (T0 : List TrEv)
    (f v : Nat) (s : DfsSt G) (hv : v < f) (hs : Skel ns0 s.ns) (hvr : v ≤ root)
    (hg : Met ns0 root (v :: s.visited) s.ns)
    (ht : s.trace = T0 ++ zs ns0 root s.visited.reverse ++ (if v ∈ s.visited then [] else zs ns0 root [v])) :
    VisitPost ns0 root T0 v s (visit f v s) := by
  refine visit_rule ns0 hw
    (fun v s => v ≤ root ∧ Met ns0 root (v :: s.visited) s.ns ∧
      s.trace = T0 ++ zs ns0 root s.visited.reverse ++ (if v ∈ s.visited then [] else zs ns0 root [v]))
    (fun v s s' => VisitPost ns0 root T0 v s s')
    (fun v s _ t => v ≤ root ∧ Met ns0 root t.visited t.ns ∧ v ∈ t.visited ∧
      (∀ x ∈ s.visited, x ∈ t.visited) ∧ t.trace = T0 ++ zs ns0 root t.visited.reverse ∧
      ∀ g, s.visited.length = s.ordered.length + g → t.visited.length = t.ordered.length + (g + 1))
    ?hvis ?hinit ?hstep ?hfin f v s hv hs ⟨hvr, hg, ht⟩
  case hvis =>
    rintro v s ⟨_, hg, ht⟩ hvis
    exact ⟨hg.congr (fun k => List.mem_cons.trans (or_iff_right_of_imp (fun e => e ▸ hvis))),
      hvis, fun _ h => h, by simpa [hvis] using ht, fun _ h => h⟩
  case hinit =>
    rintro v s _ ⟨hvr, hg, ht⟩ hvis
    refine ⟨hvr, hg, by simp, fun x hx => List.mem_cons_of_mem _ hx, ?_, fun g h => congrArg (· + 1) h⟩
    simpa [hvis, zs_append] using ht
  case hstep =>
    rintro v s c cs t hc ⟨hvr, hg, hvt, hsub, htr, hord⟩
    have hcr : c < root := Nat.lt_of_lt_of_le (hw v c hc) hvr
    obtain ⟨hg', htr'⟩ := enc_met ns0 root t c (Nat.ne_of_lt hcr) hg
    refine ⟨⟨Nat.le_of_lt hcr, by simpa only [enc_visited] using hg', by rw [htr', htr, enc_visited]⟩, ?_⟩
    intro t' q
    have qord := q.ord
    simp only [enc_visited, enc_ordered] at qord
    exact ⟨hvr, q.met, q.sub v (by simpa using hvt), fun x hx => q.sub x (by simpa using hsub x hx), q.tr,
      fun g h => qord _ (hord g h)⟩
  case hfin =>
    rintro v s t ⟨_, hg, hvt, hsub, htr, hord⟩
    refine ⟨hg, hvt, hsub, htr, fun g h => ?_⟩
    rw [List.length_append]; exact (hord g h).trans (Nat.add_right_comm _ g 1)

/-! ### the steering of the traversal depends only on the `children` fields -/

structure DfsRel (s t : DfsSt G) : Prop where
  visited : s.visited = t.visited
  ordered : s.ordered = t.ordered
  kids : KidsEq s.ns t.ns

theorem DfsRel.enc {s t : DfsSt G} (h : DfsRel s t) (c : Nat) : DfsRel (enc s c) (enc t c) :=
  ⟨by rw [enc_visited, enc_visited, h.visited], by rw [enc_ordered, enc_ordered, h.ordered],
    fun v => ((KidsEq.of_skel (enc_skel s c) v).symm.trans (h.kids v)).trans (KidsEq.of_skel (enc_skel t c) v)⟩

open Proofs.EngineStack (stk_body) in
theorem visit_rel (f v : Nat) (s t : DfsSt G) (h : DfsRel s t) : DfsRel (visit f v s) (visit f v t) := by
  induction f generalizing v s t with
  | zero => exact h
  | succ f ih =>
    rw [visit_succ, visit_succ, ← h.visited, ← h.kids.chOf v]
    split
    · exact h
    · have hkids : ∀ (cs : List Nat) (s t : DfsSt G), DfsRel s t → DfsRel (stk_body f s cs) (stk_body f t cs) := by
        intro cs
        induction cs with
        | nil => intro s t h; exact h
        | cons c cs ihc => intro s t h; exact ihc _ _ (ih c _ _ (h.enc c))
      have h2 := hkids (chOf s.ns v) { s with visited := v :: s.visited }
        { t with visited := v :: s.visited } ⟨rfl, h.ordered, h.kids⟩
      exact ⟨h2.visited, by simp only [h2.ordered], h2.kids⟩

/-- **The order in which nodes are visited and listed only depends on the skeleton.** -/
theorem traverse_rel {a b : Graph G} (h : Skel a b) (root : Nat) : DfsRel (traverse a root) (traverse b root) := by
  unfold traverse
  rw [h.length]
  exact visit_rel _ root ⟨[], [], a, []⟩ ⟨[], [], b, []⟩ ⟨rfl, rfl, KidsEq.of_skel h⟩

end Proofs.Engine
