import SynapModel.TrainMetrics
import Proofs.AssocList
/-!
# Lemmas about `SynapModel/TrainMetrics.lean` (Evaluator state machine, history of `fit`)

The arg-max rule, closed forms of the evaluator's and `fit`'s loops, what `record_metrics` does to the lists and to the keys of the history.
-/
namespace Synap.Train

/-- the body of the fold in `argmax`, with projections for its `let (best, bi, k) := acc`: a named function, which `rw` can unfold -/
def amStep (acc : Int × Nat × Nat) (v : Int) : Int × Nat × Nat :=
  if v > acc.1 then (v, acc.2.2, acc.2.2 + 1) else (acc.1, acc.2.1, acc.2.2 + 1)

/-- `p` is what the fold has consumed, split at the running maximum `m`, which stands at index `|l|` -/
theorem amStep_foldl_split (xs : List Int) : ∀ (p l r : List Int) (m : Int), p = l ++ m :: r →
    (∀ a ∈ l, a < m) → (∀ a ∈ r, a ≤ m) →
    ∃ l' m' r', p ++ xs = l' ++ m' :: r' ∧
      (xs.foldl amStep (m, l.length, p.length)).2.1 = l'.length ∧
      (∀ a ∈ l', a < m') ∧ (∀ a ∈ r', a ≤ m') := by
  induction xs with
  | nil => intro p l r m hp hl hr; exact ⟨l, m, r, by rw [List.append_nil, hp], rfl, hl, hr⟩
  | cons v xs ih =>
    intro p l r m hp hl hr
    rw [List.foldl_cons, amStep, List.append_cons]
    by_cases hv : v > m
    · rw [if_pos hv]
      -- a new maximum: everything seen so far is strictly below it
      have := ih (p ++ [v]) p [] v rfl (fun a ha => by
        rcases List.mem_append.mp (hp ▸ ha) with h | h
        · exact Int.lt_trans (hl a h) hv
        · rcases List.mem_cons.mp h with rfl | h
          · exact hv
          · exact Int.lt_of_le_of_lt (hr a h) hv) nofun
      rwa [List.length_append] at this
    · rw [if_neg hv]
      have := ih (p ++ [v]) l (r ++ [v]) m (hp ▸ List.append_assoc l (m :: r) [v]) hl (fun a ha => by
        rcases List.mem_append.mp ha with h | h
        · exact hr a h
        · rw [List.mem_singleton.mp h]; exact Int.not_lt.mp hv)
      rwa [List.length_append] at this

/-- `np.argmax` returns the FIRST index of the maximum -/
theorem argmax_split (row : List Int) (h : row ≠ []) :
    ∃ l m r, row = l ++ m :: r ∧ argmax row = l.length ∧ (∀ a ∈ l, a < m) ∧ (∀ a ∈ r, a ≤ m) := by
  cases row with
  | nil => exact absurd rfl h
  | cons x xs =>
    -- `argmax (x :: xs)` unfolds to `(xs.foldl amStep (x, 0, 1)).2.1`
    exact amStep_foldl_split xs [x] [] [] x rfl nofun nofun

theorem batchTrue_append (cfg : EvCfg) (a b : List Sample) : batchTrue cfg (a ++ b) = batchTrue cfg a ++ batchTrue cfg b := by
  simp [batchTrue]
theorem batchPred_append (cfg : EvCfg) (a b : List Sample) : batchPred cfg (a ++ b) = batchPred cfg a ++ batchPred cfg b := by
  simp [batchPred]
theorem batchTrue_length (cfg : EvCfg) (a : List Sample) : (batchTrue cfg a).length = a.length := by simp [batchTrue]
theorem batchPred_length (cfg : EvCfg) (a : List Sample) : (batchPred cfg a).length = a.length := by simp [batchPred]

/-- `y_true == y_pred` at one sample: the buffers hold `int16` (l.64-65), so it is the wrapped values that are compared -/
def correct (cfg : EvCfg) (s : Sample) : Bool :=
  decide (wrap16 (decodeTrue cfg.mode s) = wrap16 (decodePred cfg.mode cfg.scale s))

def correctCount (cfg : EvCfg) (ss : List Sample) : Nat := (ss.filter (correct cfg)).length

theorem countEq_batch (cfg : EvCfg) (ss : List Sample) :
    countEq (batchTrue cfg ss) (batchPred cfg ss) = correctCount cfg ss := by
  induction ss with
  | nil => rfl
  | cons s ss ih =>
    simp only [countEq, batchTrue, batchPred, List.map_cons, List.zipWith_cons_cons, List.sum_cons] at ih ⊢
    rw [ih]
    by_cases h : wrap16 (decodeTrue cfg.mode s) = wrap16 (decodePred cfg.mode cfg.scale s)
    · simp [correctCount, correct, h]; omega
    · simp [correctCount, correct, h]

/-- the grouping into batches is invisible: only the concatenation of the batches enters -/
theorem evSteps_eq (cfg : EvCfg) (pre : Option String) (bs : List (List Sample)) (st : EvState) :
    evSteps cfg pre st bs = if bs.flatten.all (wellShaped cfg.mode) then
      some ⟨st.yTrue ++ batchTrue cfg bs.flatten, st.yPred ++ batchPred cfg bs.flatten⟩ else none := by
  induction bs generalizing st with
  | nil => simp [evSteps, batchTrue, batchPred]
  | cons b bs ih =>
    rw [evSteps, evStep, List.flatten_cons, List.all_append, ← stepOk]
    cases stepOk cfg.mode b
    · rfl
    · simp only [if_true, Option.bind_some, ih, Bool.true_and, batchTrue_append, batchPred_append, List.append_assoc]

def samplesOf (bs : List LBatch) : List Sample := bs.flatMap (·.samples)
def lossSum (bs : List LBatch) : Rat := (bs.map (·.loss)).sum
def meanLoss (bs : List LBatch) : Rat := lossSum bs / (bs.length : Rat)

/-- the evaluator's buffers after it has seen the batches `bs` on top of `st` -/
def stAfter (ev : Option EvCfg) (st : EvState) (bs : List LBatch) : EvState :=
  match ev with
  | none => st
  | some cfg => ⟨st.yTrue ++ batchTrue cfg (samplesOf bs), st.yPred ++ batchPred cfg (samplesOf bs)⟩

theorem stAfter_some (cfg : EvCfg) (st : EvState) (bs : List LBatch) :
    stAfter (some cfg) st bs =
      ⟨st.yTrue ++ batchTrue cfg (bs.map LBatch.samples).flatten, st.yPred ++ batchPred cfg (bs.map LBatch.samples).flatten⟩ := by
  rw [stAfter, samplesOf, List.flatMap_def]

theorem batchLoop_eq (ev : Option EvCfg) (pre : Option String) (bs : List LBatch) (st : EvState) (acc : Rat) :
    batchLoop ev pre st acc bs =
      (match ev with
       | none => some st
       | some cfg => evSteps cfg pre st (bs.map LBatch.samples)).map (fun st' => (st', acc + lossSum bs)) := by
  induction bs generalizing st acc with
  | nil => cases ev <;> simp [batchLoop, evSteps, lossSum, Rat.add_zero]
  | cons b bs ih =>
    cases ev with
    | none => simp [batchLoop, ih, lossSum, Rat.add_assoc]
    | some cfg =>
      simp only [batchLoop, List.map_cons, evSteps]
      cases evStep cfg st pre b.samples with
      | none => rfl
      | some r => simp [ih, lossSum, Rat.add_assoc]

/-- the metric list one `__train` / `__validate` returns when the evaluator was found in state `st` -/
def specMetrics (ev : Option EvCfg) (pre : Option String) (lossKey : String) (st : EvState) (bs : List LBatch) : List Metric :=
  [(lossKey, .num (meanLoss bs))] ++
    (match ev with
     | none => []
     | some cfg => computeMetrics cfg (stAfter ev st bs).yTrue (stAfter ev st bs).yPred pre cfg.epochCb)

theorem epochMetrics_spec (ev : Option EvCfg) (pre : Option String) (lossKey : String) (st : EvState) (bs : List LBatch)
    (st' : EvState) (ms : List Metric) (h : epochMetrics ev pre lossKey st bs = some (st', ms)) :
    bs ≠ [] ∧ ms = specMetrics ev pre lossKey st bs ∧
    st' = (match ev with | none => st | some _ => EvState.empty) := by
  have hne : bs ≠ [] := by
    rintro rfl
    simp [epochMetrics, batchLoop] at h
  have he : bs.isEmpty = false := by cases bs <;> simp_all
  refine ⟨hne, ?_⟩
  cases ev with
  | none =>
    simp only [epochMetrics, batchLoop_eq, Rat.zero_add, Option.map_some, he, Bool.false_eq_true, if_false, Option.some.injEq,
      Prod.mk.injEq] at h
    exact ⟨h.2.symm, h.1.symm⟩
  | some cfg =>
    simp only [epochMetrics, batchLoop_eq, evSteps_eq, Rat.zero_add] at h
    by_cases hall : ((bs.map LBatch.samples).flatten.all (wellShaped cfg.mode)) = true
    · simp only [hall, if_true, Option.map_some, he, Bool.false_eq_true, if_false, ← stAfter_some, Option.some.injEq,
        Prod.mk.injEq] at h
      exact ⟨h.2.symm, h.1.symm⟩
    · simp [hall] at h

theorem record_eq (ms : List Metric) (h : Hist) :
    record h ms = if ms.all (·.2.isFloating) then some (ms.foldl (fun h m => recordOne h m.1 m.2) h) else none := by
  induction ms generalizing h with
  | nil => rfl
  | cons m ms ih =>
    rw [record, ih, List.all_cons]
    cases m.2.isFloating <;> rfl

theorem record_some {ms : List Metric} {h h' : Hist} (e : record h ms = some h') :
    h' = ms.foldl (fun h m => recordOne h m.1 m.2) h := by
  rw [record_eq] at e
  split at e <;> cases e
  rfl

theorem record_append (a b : List Metric) (h : Hist) : record h (a ++ b) = (record h a).bind (fun h' => record h' b) := by
  simp only [record_eq, List.all_append, List.foldl_append]
  cases a.all (·.2.isFloating) <;> rfl

def valuesNamed (k : String) (ms : List Metric) : List MVal := (ms.filter (fun m => m.1 == k)).map (·.2)

theorem valuesNamed_append (k : String) (a b : List Metric) : valuesNamed k (a ++ b) = valuesNamed k a ++ valuesNamed k b := by
  simp [valuesNamed]

theorem valuesNamed_flatMap {α : Type} (k : String) (l : List α) (g : α → List Metric) :
    valuesNamed k (l.flatMap g) = l.flatMap fun a => valuesNamed k (g a) := by
  simp only [valuesNamed, List.filter_flatMap, List.map_flatMap]

theorem valuesNamed_of_nodup (ms : List Metric) (k : String) (v : MVal) (hnd : (ms.map Prod.fst).Nodup) (hm : (k, v) ∈ ms) :
    valuesNamed k ms = [v] :=
  congrArg (List.map Prod.snd) (List.filter_key_of_nodup hnd hm)

theorem valuesNamed_length_of_nodup (ms : List Metric) (k : String) (hnd : (ms.map Prod.fst).Nodup) (hm : k ∈ ms.map Prod.fst) :
    (valuesNamed k ms).length = 1 := by
  obtain ⟨⟨mk, mv⟩, hm1, rfl⟩ := List.mem_map.mp hm
  rw [valuesNamed_of_nodup ms mk mv hnd hm1]; rfl

theorem histGet_eq (h : Hist) (k : String) : histGet h k = ((h.find? (·.1 == k)).map (·.2)).getD [] := by
  unfold histGet; cases h.find? _ <;> rfl

theorem histGet_recordOne (h : Hist) (k k' : String) (v : MVal) :
    histGet (recordOne h k v) k' = histGet h k' ++ (if k = k' then [v] else []) := by
  rw [histGet_eq, histGet_eq]
  refine (congrArg (Option.getD · [])
    (List.lookup_upsert (fun o => o.getD [] ++ [v]) _ (fun e => by split <;> simp_all) h k')).trans ?_
  by_cases hk : k' = k
  · subst hk; simp
  · simp [hk, Ne.symm hk]

/-- `record_metrics` appends to the list of every key the values of the pairs of that name, in order — whatever the names
    are: a callback metric named like another metric of the epoch lands in the same list (l.140-144) -/
theorem histGet_record (ms : List Metric) (h h' : Hist) (e : record h ms = some h') (k : String) :
    histGet h' k = histGet h k ++ valuesNamed k ms := by
  obtain rfl := record_some e
  clear e
  induction ms generalizing h with
  | nil => simp [valuesNamed]
  | cons m ms ih =>
    rw [List.foldl_cons, ih, histGet_recordOne]
    by_cases hk : m.1 = k <;> simp [valuesNamed, hk]

theorem histGet_of_mem (H : Hist) (kv : String × List MVal) (hkv : kv ∈ H) (hnd : (H.map Prod.fst).Nodup) :
    histGet H kv.1 = kv.2 := by
  rw [histGet, ← List.head?_filter, List.filter_key_of_nodup hnd hkv]; rfl

/-- keys in insertion order after recording pairs named `new` on top of keys `ks` -/
def addKeys (ks new : List String) : List String := new.foldl (fun ks k => if k ∈ ks then ks else ks ++ [k]) ks

theorem keys_recordOne (h : Hist) (k : String) (v : MVal) :
    (recordOne h k v).map Prod.fst = if k ∈ h.map Prod.fst then h.map Prod.fst else h.map Prod.fst ++ [k] := by
  have hk : h.any (fun e => e.1 == k) = true ↔ k ∈ h.map Prod.fst := by
    simp only [List.any_eq_true, List.mem_map, beq_iff_eq]
  unfold recordOne
  by_cases hm : k ∈ h.map Prod.fst
  · rw [if_pos (hk.mpr hm), if_pos hm, List.map_map]
    exact List.map_congr_left fun e _ => by rw [Function.comp_apply]; split <;> rfl
  · rw [if_neg (mt hk.mp hm), if_neg hm, List.map_append]; rfl

theorem keys_record (ms : List Metric) (h h' : Hist) (e : record h ms = some h') :
    h'.map Prod.fst = addKeys (h.map Prod.fst) (ms.map Prod.fst) := by
  obtain rfl := record_some e
  clear e
  induction ms generalizing h with
  | nil => rfl
  | cons m ms ih => rw [List.foldl_cons, ih, keys_recordOne]; rfl

theorem addKeys_append (ks a b : List String) : addKeys ks (a ++ b) = addKeys (addKeys ks a) b :=
  List.foldl_append

theorem addKeys_fresh (new : List String) : ∀ ks : List String, (ks ++ new).Nodup → addKeys ks new = ks ++ new := by
  induction new with
  | nil => intro ks _; exact (List.append_nil ks).symm
  | cons k new ih =>
    intro ks hnd
    have hk : k ∉ ks := fun hm => (List.nodup_append.mp hnd).2.2 k hm k List.mem_cons_self rfl
    rw [addKeys, List.foldl_cons, if_neg hk]
    rw [List.append_cons ks k new] at hnd ⊢
    exact ih _ hnd

theorem addKeys_known (new : List String) : ∀ ks : List String, (∀ k ∈ new, k ∈ ks) → addKeys ks new = ks := by
  induction new with
  | nil => intro ks _; rfl
  | cons k new ih =>
    intro ks hsub
    rw [addKeys, List.foldl_cons, if_pos (hsub k List.mem_cons_self)]
    exact ih ks fun k' hk' => hsub k' (List.mem_cons_of_mem _ hk')

/-- recording the same duplicate-free names epoch after epoch creates them once, in their order -/
theorem addKeys_flatMap_const {α : Type} (K : List String) (hK : K.Nodup) (l : List α) :
    addKeys [] (l.flatMap fun _ => K) = if l = [] then [] else K := by
  cases l with
  | nil => rfl
  | cons a l =>
    rw [List.flatMap_cons, addKeys_append, addKeys_fresh K [] (by simpa using hK), List.nil_append,
      addKeys_known _ K fun k hk => by obtain ⟨_, _, h⟩ := List.mem_flatMap.mp hk; exact h]
    rfl

/-- the metric pairs one epoch of `fit` records (training, then validation), evaluator found empty -/
def epochSpec (ev : Option EvCfg) (hasVal : Bool) (d : EpochData) : List Metric :=
  specMetrics ev none "loss" EvState.empty d.train ++
    (if hasVal then specMetrics ev (some "val") "val_loss" EvState.empty d.val else [])

theorem epochV_spec (ev : Option EvCfg) (hasVal : Bool) (h h' : Hist) (d : EpochData) (st' : EvState)
    (e : epochV ev hasVal EvState.empty h d = some (st', h')) :
    st' = EvState.empty ∧ record h (epochSpec ev hasVal d) = some h' ∧ d.train ≠ [] ∧ (hasVal = true → d.val ≠ []) := by
  unfold epochV at e
  split at e
  · cases e
  next s1 tm ht =>
  obtain ⟨t1, rfl, t3⟩ := epochMetrics_spec ev none "loss" _ _ _ _ ht
  obtain rfl : s1 = EvState.empty := by cases ev <;> exact t3
  rw [epochSpec, record_append]
  split at e
  · cases e
  next h1 hr =>
  rw [hr, Option.bind_some]
  split at e
  next hv =>
    split at e
    · cases e
    next s2 vm hvm =>
    obtain ⟨v1, rfl, v3⟩ := epochMetrics_spec ev (some "val") "val_loss" _ _ _ _ hvm
    obtain rfl : s2 = EvState.empty := by cases ev <;> exact v3
    split at e
    · cases e
    next h2 hr2 =>
    cases e
    exact ⟨rfl, by rw [if_pos hv]; exact hr2, t1, fun _ => v1⟩
  next hv =>
    cases e
    exact ⟨rfl, by rw [if_neg hv]; rfl, t1, fun h => absurd h hv⟩

/-- **the history `fit` returns is `record_metrics` of the metric pairs of all its epochs, in order** (evaluator found empty, and
    left empty); it returns only if every loader had a batch -/
theorem fitV_spec (ev : Option EvCfg) (hasVal : Bool) (ds : List EpochData) :
    ∀ (h H : Hist) (st : EvState), fitV ev hasVal EvState.empty h ds = some (st, H) →
      st = EvState.empty ∧ record h (ds.flatMap (epochSpec ev hasVal)) = some H ∧
      (∀ d ∈ ds, d.train ≠ [] ∧ (hasVal = true → d.val ≠ [])) := by
  induction ds with
  | nil => intro h H st e; cases e; exact ⟨rfl, rfl, by simp⟩
  | cons d ds ih =>
    intro h H st e
    rw [fitV, Option.bind_eq_some_iff] at e
    obtain ⟨⟨s1, h1⟩, he, e⟩ := e
    obtain ⟨rfl, hrec, hne⟩ := epochV_spec ev hasVal h h1 d s1 he
    obtain ⟨i1, i2, i3⟩ := ih h1 H st e
    exact ⟨i1, by rw [List.flatMap_cons, record_append, hrec]; exact i2, List.forall_mem_cons.mpr ⟨hne, i3⟩⟩

end Synap.Train
