import SynapModel.Generated.KernelCalls
/-!
# The array kernels of the source that are compositions of NumPy calls, as translated on this run, are the model kernels

`SynapModel/Generated/KernelCalls.lean` is rewritten from `/repo/synapgrad/cpu_ops.py` by `harness/array_formulas.py` on every
run.  Each theorem: the hand-written model kernel (`Synap.Kernels.*`, which the adjoint theorems of C01 and the forward
theorems of C05 are about) equals the generated composition, for every array, every argument, over any scalar type.
-/
set_option linter.unusedSectionVars false
namespace Proofs.KernelCallsTie
open Synap Synap.Np Synap.Kernels

variable {α : Type} [Zero α] [One α] [Add α] [Mul α] [Neg α]

theorem transpose_is_src (a g : NDArray α) (d0 d1 : Int) :
    transposeForward a d0 d1 = Gen.Calls.transpose_forward a d0 d1 ∧ transposeBackward g d0 d1 = Gen.Calls.transpose_backward g d0 d1 := ⟨rfl, rfl⟩
theorem movedim_is_src (a g : NDArray α) (src dst : Int) :
    movedimForward a src dst = Gen.Calls.movedim_forward a src dst ∧ movedimBackward g src dst = Gen.Calls.movedim_backward g src dst := ⟨rfl, rfl⟩
theorem reshape_is_src (a g : NDArray α) (t : List Int) (sa : Shape) :
    reshapeForward a t = Gen.Calls.reshape_forward a t ∧ reshapeBackward g sa = Gen.Calls.reshape_backward g sa := ⟨rfl, rfl⟩
theorem squeeze_backward_is_src (g : NDArray α) (sa : Shape) : squeezeBackward g sa = Gen.Calls.squeeze_backward g sa := rfl
theorem unsqueeze_is_src (a g : NDArray α) (axes : List Int) :
    unsqueezeForward a axes = Gen.Calls.unsqueeze_forward a axes ∧ unsqueezeBackward g axes = Gen.Calls.unsqueeze_backward g axes := ⟨rfl, rfl⟩
theorem matmul_is_src (a b g : NDArray α) :
    matmulForward a b = Gen.Calls.matmul_forward a b ∧ matmulBackward g a b = Gen.Calls.matmul_backward g a b := ⟨rfl, rfl⟩
theorem addmm_forward_is_src (a b c : NDArray α) : addmmForward a b c = Gen.Calls.addmm_forward a b c := by
  unfold addmmForward Gen.Calls.addmm_forward addForward NpCall.add NpCall.matmul
  cases Np.matmul b c <;> simp
theorem sum_forward_is_src (a : NDArray α) (ax : Axes) (keep : Bool) : sumForward a ax keep = Gen.Calls.sum_forward a ax keep := rfl
theorem concat_forward_is_src (xs : List (NDArray α)) (axis : Int) : concatForward xs axis = Gen.Calls.concat_forward xs axis := rfl
theorem stack_is_src (xs : List (NDArray α)) (g : NDArray α) (axis : Int) :
    stackForward xs axis = Gen.Calls.stack_forward xs axis ∧ stackBackward g axis = Gen.Calls.stack_backward g axis := ⟨rfl, rfl⟩
theorem unbind_forward_is_src (a : NDArray α) (axis : Int) : unbindForward a axis = Gen.Calls.unbind_forward a axis := rfl
theorem slice_is_src (a g : NDArray α) (sa : Shape) (sels : List Sel) :
    sliceForward a sels = Gen.Calls.slice_forward a sels ∧ sliceBackward g sa sels = Gen.Calls.slice_backward g sa sels := by
  refine ⟨rfl, ?_⟩
  unfold sliceBackward Gen.Calls.slice_backward NpCall.add_at_zeros
  cases resolveIndex sa sels <;> rfl

end Proofs.KernelCallsTie
