import SynapModel.Effects
/-!
# Soundness of the may-alias analysis of effect programs (C11, stage 2)

`safe k = true` implies: whatever buffers the parameters are bound to on entry (aliased or not)
and whatever finite sequence of statements of the body runs, with whatever oracle choices, the
contents of the buffer of every protected parameter are the same afterwards as before.

The proof does not look at `solve`: it only uses that the points-to map is `closed` and that
`writesOk` holds, so the solver is not part of what has to be trusted.
-/
namespace Proofs.Effects
open Synap.Effects

theorem testBit_row (np pts v q : Nat) : (row np pts v).testBit q = (decide (q < np) && hasRoot np pts v q) := by
  unfold row hasRoot
  rw [Nat.testBit_mod_two_pow, Nat.testBit_shiftRight]

theorem closed_alias {np pts : Nat} {body : List Stmt} (hc : closed np pts body = true) {v u q : Nat} {srcs : List Nat}
    (hm : Stmt.assign v (.alias srcs) ∈ body) (hu : u ∈ srcs) (hq : q < np) (h : hasRoot np pts u q = true) :
    hasRoot np pts v q = true := by
  have h1 := List.all_eq_true.mp (Bool.and_eq_true_iff.mp hc).2 _ hm
  -- the row comparison of `closedStmt`, read at bit `q`
  have h2 := congrArg (·.testBit q) (eq_of_beq (List.all_eq_true.mp h1 u hu))
  simp only [Nat.testBit_or, testBit_row, hq, decide_true, Bool.true_and, h, Bool.true_or] at h2
  exact h2.symm

theorem writesOk_write {np pts : Nat} {prot : List Nat} {body : List Stmt} (hw : writesOk np pts prot body = true)
    {v q : Nat} (hm : Stmt.write v ∈ body) (hq : q < np) (h : hasRoot np pts v q = true) : q ∉ prot := by
  have h1 := List.all_eq_true.mp (List.all_eq_true.mp hw _ hm) q (List.mem_range.mpr hq)
  simpa [h] using h1

/-- the invariant kept by every step: buffers bound to variables exist; a variable bound to a
    buffer that existed on entry refers to the initial buffer of one of the roots recorded for it;
    the buffers of protected parameters still hold their initial contents -/
structure Inv (k : Kernel) (pts : Pts) (s0 s : State) : Prop where
  next_le : s0.next ≤ s.next
  allocated : ∀ v b, s.env v = some b → b < s.next
  root : ∀ v b, s.env v = some b → b < s0.next →
    ∃ q, q < k.nparams ∧ hasRoot k.nparams pts v q = true ∧ s0.env q = some b
  kept : ∀ p ∈ k.protectedParams, ∀ b, s0.env p = some b → s.mem b = s0.mem b

theorem inv_entry {k : Kernel} {pts : Pts} {s0 : State}
    (hc : closed k.nparams pts k.body = true) (he : Entry k s0) : Inv k pts s0 s0 := by
  refine ⟨Nat.le_refl _, he.allocated, ?_, fun _ _ _ _ => rfl⟩
  intro v b hv _
  have hlt := he.onlyParams v b hv
  exact ⟨v, hlt, List.all_eq_true.mp (Bool.and_eq_true_iff.mp hc).1 v (List.mem_range.mpr hlt), hv⟩

/-- `State.alloc` is a new cell of memory (`inv_grow`) and then the binding of a variable to it (`inv_bind`); an `alias`
    that picks a source is the binding alone -/
theorem inv_grow {k : Kernel} {pts : Pts} {s0 s : State} (he : Entry k s0) (h : Inv k pts s0 s) (c : List Int) :
    Inv k pts s0 ⟨s.next + 1, s.env, upd s.mem s.next c⟩ :=
  ⟨Nat.le_succ_of_le h.next_le, fun w b hw => Nat.lt_succ_of_lt (h.allocated w b hw), h.root,
    fun p hp b hb =>
      (if_neg (Nat.ne_of_lt (Nat.lt_of_lt_of_le (he.allocated p b hb) h.next_le))).trans (h.kept p hp b hb)⟩

theorem inv_bind {k : Kernel} {pts : Pts} {s0 s : State} (h : Inv k pts s0 s) {v b : Nat} (hb : b < s.next)
    (hr : b < s0.next → ∃ q, q < k.nparams ∧ hasRoot k.nparams pts v q = true ∧ s0.env q = some b) :
    Inv k pts s0 ⟨s.next, upd s.env v (some b), s.mem⟩ := by
  -- in both clauses about `env`: `w` is `v`, now bound to `b`, or keeps its binding
  refine ⟨h.next_le, fun w b' hw => ?_, fun w b' hw hb' => ?_, h.kept⟩ <;>
    (simp only [upd] at hw; split at hw)
  · cases hw; exact hb
  · exact h.allocated w b' hw
  · cases hw; subst_vars; exact hr hb'
  · exact h.root w b' hw hb'

theorem inv_step {k : Kernel} {pts : Pts} {s0 s t : State} (he : Entry k s0) (hsep : Separated k s0)
    (hc : closed k.nparams pts k.body = true) (hw : writesOk k.nparams pts k.protectedParams k.body = true)
    (h : Inv k pts s0 s) (st : Step k.body s t) : Inv k pts s0 t := by
  -- a brand-new buffer did not exist on entry
  have alloc : ∀ v c, Inv k pts s0 (s.alloc v c) := fun v c =>
    inv_bind (inv_grow he h c) (Nat.lt_succ_self _) fun hlt => absurd hlt (Nat.not_lt.mpr h.next_le)
  cases st with
  | fresh v c _ => exact alloc v c
  | aliasNew v srcs c _ => exact alloc v c
  | aliasSrc v srcs u b hmem hu hb =>
    refine inv_bind h (h.allocated u b hb) fun hb' => ?_
    obtain ⟨q, hq, hqu, hq0⟩ := h.root u b hb hb'
    exact ⟨q, hq, closed_alias hc hmem hu hq hqu, hq0⟩
  | write v b c hmem hb =>
    refine ⟨h.next_le, h.allocated, h.root, fun p hp b' hb' => ?_⟩
    by_cases hbb : b' = b
    · -- the written buffer would be the entry buffer of a protected parameter, hence of a protected root of `v`
      subst hbb
      obtain ⟨q, hqlt, hqv, hq0⟩ := h.root v b' hb (he.allocated p b' hb')
      exact absurd (hsep p hp q b' hb' hq0) (writesOk_write hw hmem hqlt hqv)
    · exact (if_neg hbb).trans (h.kept p hp b' hb')

theorem inv_trace {k : Kernel} {pts : Pts} {s0 s t : State} (he : Entry k s0) (hsep : Separated k s0)
    (hc : closed k.nparams pts k.body = true) (hw : writesOk k.nparams pts k.protectedParams k.body = true)
    (h : Inv k pts s0 s) (tr : Trace k.body s t) : Inv k pts s0 t := by
  induction tr with
  | done _ => exact h
  | step st _ ih => exact ih (inv_step he hsep hc hw h st)

/-- **Soundness for any certified points-to map**: a `closed` map under which `writesOk` holds
    guarantees that no execution changes the buffer of a protected parameter. -/
theorem certified_sound (k : Kernel) (pts : Pts)
    (hc : closed k.nparams pts k.body = true) (hw : writesOk k.nparams pts k.protectedParams k.body = true)
    (s0 s : State) (he : Entry k s0) (hsep : Separated k s0) (tr : Trace k.body s0 s) :
    ∀ p ∈ k.protectedParams, ∀ b, s0.env p = some b → s.mem b = s0.mem b :=
  (inv_trace he hsep hc hw (inv_entry hc he) tr).kept

/-- **Soundness of `safe`.**  If `safe k = true` then for every entry state (any binding of the
    parameters to existing buffers, aliased or not, provided no protected parameter shares its
    buffer with an output parameter) and every trace over `k.body`, the contents of the buffer of
    every protected parameter after the trace equal its contents before. -/
theorem safe_sound (k : Kernel) (hs : safe k = true)
    (s0 s : State) (he : Entry k s0) (hsep : Separated k s0) (tr : Trace k.body s0 s) :
    ∀ p ∈ k.protectedParams, ∀ b, s0.env p = some b → s.mem b = s0.mem b :=
  have ⟨hc, hw⟩ := Bool.and_eq_true_iff.mp hs
  certified_sound k (solve k) hc hw s0 s he hsep tr

/-- **What a variable can be bound to.**  Under a certified points-to map, whenever a variable is
    bound to a buffer that existed on entry, that buffer is the entry buffer of one of the roots
    recorded for the variable. -/
theorem roots_sound (k : Kernel) (pts : Pts) (hc : closed k.nparams pts k.body = true)
    (hw : writesOk k.nparams pts k.protectedParams k.body = true)
    (s0 s : State) (he : Entry k s0) (hsep : Separated k s0) (tr : Trace k.body s0 s)
    (v b : Nat) (hv : s.env v = some b) (hb : b < s0.next) :
    ∃ q, q < k.nparams ∧ hasRoot k.nparams pts v q = true ∧ s0.env q = some b :=
  (inv_trace he hsep hc hw (inv_entry hc he) tr).root v b hv hb

/-- **Soundness of `returnsFresh`.**  If `safe k` and `returnsFresh k` then, after every trace from
    every entry state, the result variable is bound (if at all) to a buffer that did not exist on
    entry — in particular to none of the buffers the parameters were bound to, however they alias. -/
theorem returnsFresh_sound (k : Kernel) (hs : safe k = true) (hf : returnsFresh k = true)
    (s0 s : State) (he : Entry k s0) (hsep : Separated k s0) (tr : Trace k.body s0 s)
    (b : Nat) (hr : s.env k.ret = some b) : s0.next ≤ b ∧ ∀ p b', s0.env p = some b' → b' ≠ b := by
  have ⟨hc, hw⟩ := Bool.and_eq_true_iff.mp hs
  have h0 : row k.nparams (solve k) k.ret = 0 := eq_of_beq (Bool.and_eq_true_iff.mp hf).2
  have hge : s0.next ≤ b := by
    apply Nat.le_of_not_lt
    intro hlt
    -- a buffer of the entry state would be the buffer of a root of `ret`, and the row of `ret` is empty
    obtain ⟨q, hq, hqr, _⟩ := roots_sound k (solve k) hc hw s0 s he hsep tr k.ret b hr hlt
    have h1 := testBit_row k.nparams (solve k) k.ret q
    rw [h0] at h1
    simp [hq, hqr] at h1
  exact ⟨hge, fun p b' hp heq => Nat.lt_irrefl _ (Nat.lt_of_lt_of_le (heq ▸ he.allocated p b' hp) hge)⟩

theorem mem_protected {k : Kernel} (ha : allProtected k = true) {s0 : State} (he : Entry k s0) {p b : Nat}
    (hp : s0.env p = some b) : p ∈ k.protectedParams := by
  simpa using List.all_eq_true.mp ha p (List.mem_range.mpr (he.onlyParams p b hp))

/-- when every parameter is protected, no separation hypothesis is needed: the parameters may
    alias one another in any way -/
theorem separated_of_allProtected (k : Kernel) (ha : allProtected k = true) (s0 : State) (he : Entry k s0) :
    Separated k s0 :=
  fun _ _ _ _ _ hq => mem_protected ha he hq

/-- **Soundness, all parameters protected**: for every binding of the parameters (any aliasing
    pattern) and every trace, the buffer of every parameter keeps its contents. -/
theorem safe_sound_all (k : Kernel) (hs : safe k = true) (ha : allProtected k = true)
    (s0 s : State) (he : Entry k s0) (tr : Trace k.body s0 s) :
    ∀ p b, s0.env p = some b → s.mem b = s0.mem b :=
  fun p b hp => safe_sound k hs s0 s he (separated_of_allProtected k ha s0 he) tr p (mem_protected ha he hp) b hp

/-- `def f(x, y): v = x.reshape(-1); out = np.zeros(…); out[…] = v; w = out[1:]; w += y; return w` -/
def goodKernel : Kernel :=
  { name := "good", file := "", line := 0, nparams := 2, protectedParams := [0, 1], ret := 5,
    body := [.assign 2 (.alias [0]), .assign 3 .fresh, .write 3, .assign 4 (.alias [3]), .write 4,
             .assign 5 (.alias [4])] }

/-- `def f(x, y): v = x.reshape(-1); w = v[1:]; w[0] = 0` — a write through a view of a view of `x` -/
def badKernel : Kernel :=
  { name := "bad", file := "", line := 0, nparams := 2, protectedParams := [0, 1], ret := 3,
    body := [.assign 2 (.alias [0]), .assign 3 (.alias [2]), .write 3] }

/-- the order of the statements does not matter: `t[0] = 0; t = x` (in a loop, the write of the
    second iteration hits `x`) -/
def badLoopKernel : Kernel :=
  { name := "badloop", file := "", line := 0, nparams := 1, protectedParams := [0], ret := 1,
    body := [.assign 1 .fresh, .write 1, .assign 1 (.alias [0])] }

example : safe goodKernel = true := by decide
example : (List.range 6).map (fun v => (List.range 2).filter (hasRoot 2 (solve goodKernel) v))
    = [[0], [1], [0], [], [], []] := by decide
example : returnsFresh goodKernel = true := by decide      -- `w` is a view of the fresh `out`
example : returnsFresh badKernel = false := by decide      -- `w` is a view of `x`
example : resultRoots badKernel = [0] := by decide
example : safe badKernel = false := by decide
example : safe badLoopKernel = false := by decide
example : allProtected goodKernel = true := by decide

/-- an entry state: the parameters bound in order to the buffers `bs`, which may repeat (aliased parameters) -/
theorem entry_of_list (k : Kernel) (bs : List Nat) (n : Nat) (hk : bs.length ≤ k.nparams) (hb : ∀ b ∈ bs, b < n)
    (mem : Nat → List Int) : Entry k ⟨n, fun v => bs[v]?, mem⟩ :=
  ⟨fun _ _ h => Nat.lt_of_lt_of_le (List.getElem?_eq_some_iff.mp h).1 hk, fun _ b h => hb b (List.mem_of_getElem? h)⟩

/-- the semantics is not vacuous: `badKernel` has an execution, from an entry state, that does
    change the buffer of its first parameter -/
example : ∃ s0 s, Entry badKernel s0 ∧ Trace badKernel.body s0 s ∧ s0.env 0 = some 0 ∧ s.mem 0 ≠ s0.mem 0 := by
  let s0 : State := ⟨2, fun v => [0, 1][v]?, fun _ => [7]⟩
  refine ⟨s0, _, entry_of_list badKernel [0, 1] 2 (by decide) (by decide) _,
    .step (.aliasSrc s0 2 [0] 0 0 (by decide) (by decide) rfl)
      (.step (.aliasSrc _ 3 [2] 2 0 (by decide) (by decide) rfl)
        (.step (.write _ 3 0 [8] (by decide) rfl) (.done _))), rfl, by decide⟩

/-- … and `goodKernel` really has executions in which the view is taken and the fresh buffer is written -/
example : ∃ s0 s, Entry goodKernel s0 ∧ Trace goodKernel.body s0 s ∧ s.env 2 = s0.env 0 ∧ s.mem 2 = [9] ∧
    s.mem 0 = s0.mem 0 := by
  let s0 : State := ⟨2, fun v => [0, 0][v]?, fun _ => [7]⟩
  refine ⟨s0, _, entry_of_list goodKernel [0, 0] 2 (by decide) (by decide) _,
    .step (.aliasSrc s0 2 [0] 0 0 (by decide) (by decide) rfl)
      (.step (.fresh _ 3 [1] (by decide))
        (.step (.write _ 3 2 [9] (by decide) rfl) (.done _))), rfl, rfl, rfl⟩

end Proofs.Effects
