import Proofs.AdjointAlg
import Proofs.Subgradient
/-!
# Specification theorems for the arithmetic and reduction kernels

`mul`, `neg`, `mean`, `max` / `min` and the 0-d corner of the reductions, in the form of `Proofs/SpecOps.lean`:
exact acceptance condition, output shape, entry formula.  Every reduction reads the fibre
`(allIdx s).filter (reduceIdx axes keep · == o)` of an output index: `sum` / `mean` add it up, `max` / `min` scan it,
and `mean_count` counts it.
-/
namespace Proofs.SpecOps
open Synap Synap.NDArray Synap.Np Synap.Kernels Proofs.Core Proofs.Adjoint

section Arith

variable {R : Type} [CommRing R]

/-- **mul** (as `Props.C05.add_spec`, with acceptance and shape spelled out): with both shapes padded on
    the left with 1s to the longer rank, accepted exactly when every aligned pair of sizes is equal
    or contains a 1; the result size is the one that is not 1; and
    `(a * b)[j] = a[π_a j] · b[π_b j]`, `π` dropping the extra leading coordinates and reading
    size-1 axes at 0. -/
theorem mul_spec (a b : NDArray R) :
    let n := max a.shape.length b.shape.length
    let pa := List.replicate (n - a.shape.length) 1 ++ a.shape
    let pb := List.replicate (n - b.shape.length) 1 ++ b.shape
    ((mulForward a b).isSome ↔ ∀ p ∈ List.zip pa pb, p.1 = p.2 ∨ p.1 = 1 ∨ p.2 = 1) ∧
    ∀ y, mulForward a b = some y →
      y.shape = (List.zip pa pb).map (fun p => if p.1 = 1 then p.2 else p.1) ∧
      broadcastShapes a.shape b.shape = some y.shape ∧
      ∀ j, validIdx y.shape j →
        validIdx a.shape (bcastIdx a.shape j) ∧ validIdx b.shape (bcastIdx b.shape j) ∧
        y.get j = a.get (bcastIdx a.shape j) * b.get (bcastIdx b.shape j) := by
  have hbs := (broadcastShapes_eq a.shape b.shape).trans (mapM_eq_ite _ _ _ bcRule_eq _)
  have e := (bcast2_eq (· * ·) a b).trans ((congrArg _ hbs).trans Option.map_if)
  refine spec_of_eq e fun hc => ?_
  have hs := hbs.trans (if_pos hc)
  refine ⟨rfl, hs, fun j hj => ?_⟩
  obtain ⟨v1, v2⟩ := bcastIdx_valid a.shape b.shape _ hs j hj
  exact ⟨v1, v2, get_ofFn _ _ _ hj⟩

example : ∃ y, mulForward (⟨[2, 1], [2, 3]⟩ : NDArray Int) ⟨[3], [1, 10, 100]⟩ = some y ∧
    y.shape = [2, 3] ∧ y.data = [2, 20, 200, 3, 30, 300] := by decide +kernel
example : mulForward (⟨[2], [2, 3]⟩ : NDArray Int) ⟨[3], [1, 10, 100]⟩ = none := by decide

/-- **neg**: total; same shape, every entry negated (well-formedness preserved) -/
theorem neg_spec (x : NDArray R) :
    (negForward x).shape = x.shape ∧ (x.WF → (negForward x).WF) ∧
    ∀ j, (negForward x).get j = - x.get j :=
  ⟨rfl, fun hx => Proofs.Calc.map_wf _ x hx, fun j => Proofs.Calc.get_map0 _ neg_zero x j⟩

example : (negForward (⟨[2], [2, -3]⟩ : NDArray Int)).data = [-2, 3] := by decide

end Arith

section Axes

/-- the three spellings of a reduction's `dim` argument, normalised: `None` is every axis, an int
    must lie in `[-ndim, ndim)`, a tuple must have all entries in range and pairwise distinct
    after normalisation -/
theorem axes_norm_iff (n : Nat) (ax : Axes) (axes : List Nat) :
    ax.norm n = some axes ↔
      match ax with
      | .all => axes = List.range n
      | .one d => InRange n d ∧ axes = [pyAxis n d]
      | .many ds => (∀ d ∈ ds, InRange n d) ∧ (ds.map (pyAxis n)).Nodup ∧ axes = ds.map (pyAxis n) := by
  cases ax with
  | all => simp [Axes.norm, eq_comm]
  | one d =>
    show (normAxis n d).map _ = some axes ↔ InRange n d ∧ axes = [pyAxis n d]
    rw [normAxis_eq, Option.map_if, Option.ite_none_right_eq_some, Option.some.injEq, eq_comm]
  | many ds => exact normAxes_iff n ds axes

/-- the `dim` argument of `sum` / `max` / `min` given as an int: in `[-ndim, ndim)`, or — on a 0-d
    operand, where that interval is empty — one of `0`, `-1` (NumPy's ufunc reductions accept exactly
    these two on a 0-d array, and reduce nothing) -/
def RedDimOk (n : Nat) (d : Int) : Prop := InRange n d ∨ (n = 0 ∧ (d = 0 ∨ d = -1))

instance (n : Nat) (d : Int) : Decidable (RedDimOk n d) := by unfold RedDimOk; infer_instance

theorem redDimOk_pos {n : Nat} (hn : n ≠ 0) (d : Int) : RedDimOk n d ↔ InRange n d :=
  or_iff_left fun h => hn h.1

theorem redDimOk_zero (d : Int) : RedDimOk 0 d ↔ d = 0 ∨ d = -1 :=
  (or_iff_right (not_inRange_zero d)).trans (and_iff_right rfl)

/-- the axes argument of `sum` / `max` / `min`, normalised (`Axes.normRed`): as `axes_norm_iff`, and
    in addition an int `0` / `-1` on a 0-d operand is accepted and names no axis.  A tuple is
    validated as by `Axes.norm`: `(0,)` on a 0-d operand is rejected. -/
theorem axes_normRed_iff (n : Nat) (ax : Axes) (axes : List Nat) :
    ax.normRed n = some axes ↔
      match ax with
      | .all => axes = List.range n
      | .one d => (InRange n d ∧ axes = [pyAxis n d]) ∨ (n = 0 ∧ (d = 0 ∨ d = -1) ∧ axes = [])
      | .many ds => (∀ d ∈ ds, InRange n d) ∧ (ds.map (pyAxis n)).Nodup ∧ axes = ds.map (pyAxis n) := by
  rw [normRed_iff, axes_norm_iff]
  cases ax with
  | all => simp
  | one d => simp
  | many ds => simp

end Axes

section Mean
variable {K : Type} [Field K]

/-- **mean(dims, keepdims)** (as `Props.C05.sum_spec`): accepted exactly when the dims normalise
    (`axes_norm_iff`); the shape drops (or keeps as 1) exactly the reduced axes; the value at an
    output index is the sum of the operand's entries that agree with it off the reduced axes,
    divided by the product of the reduced sizes. -/
theorem mean_spec (x : NDArray K) (ax : Axes) (keep : Bool) :
    ((meanForward x ax keep).isSome ↔ (ax.norm x.shape.length).isSome) ∧
    ∀ y, meanForward x ax keep = some y →
      ∃ axes, ax.norm x.shape.length = some axes ∧ y.shape = reduceShape x.shape axes keep ∧
        ∀ o, validIdx y.shape o →
          y.get o = (((allIdx x.shape).filter (fun i => reduceIdx axes keep i == o)).map x.get).sum /
            (((axes.map (fun k => x.shape.getD k 0)).prod : Nat) : K) := by
  rw [meanForward_eq]
  cases h0 : ax.norm x.shape.length with
  | none => exact ⟨Iff.rfl, fun y hy => by cases hy⟩
  | some axes =>
    refine ⟨Iff.rfl, fun y hy => ?_⟩
    obtain rfl := Option.some.inj hy
    refine ⟨axes, rfl, rfl, fun o ho => ?_⟩
    refine (get_map_scatterAdd _ _ _ _ x o ho).trans ?_
    congr 2

example : ∃ y, meanForward (⟨[2, 2], [1, 2, 3, 6]⟩ : NDArray Rat) (.one (-1)) false = some y ∧
    y.shape = [2] ∧ y.get [0] = 3 / 2 ∧ y.get [1] = 9 / 2 := by decide +kernel

/-- **the divisor of `mean` is the number of summands**: for normalised (distinct, in-range) axes
    the fibre of every output index has exactly `∏_{k ∈ axes} shape[k]` elements -/
theorem mean_count (s : Shape) (axes : List Nat) (keep : Bool) (hnd : axes.Nodup)
    (hlt : ∀ k ∈ axes, k < s.length) (o : Idx) (ho : validIdx (reduceShape s axes keep) o) :
    ((allIdx s).filter (fun i => reduceIdx axes keep i == o)).length =
      (axes.map (fun k => s.getD k 0)).prod := by
  rw [← List.countP_eq_length_filter]
  simp only [reduceIdx_eq_maskFrom]
  rw [fibre_count axes keep s 0 o (by rw [← reduceShape_eq_maskFrom]; exact ho), ← List.prod_toFinset _ hnd]
  simp only [Nat.zero_add]
  rw [← Finset.prod_filter]
  refine Finset.prod_congr (Finset.ext fun k => ?_) fun _ _ => rfl
  rw [Finset.mem_filter, Finset.mem_range, List.mem_toFinset]
  exact ⟨fun h => h.2, fun h => ⟨hlt k h, h⟩⟩

theorem axes_norm_nodup {n : Nat} {ax : Axes} {axes : List Nat} (h : ax.norm n = some axes) :
    axes.Nodup ∧ ∀ k ∈ axes, k < n := by
  cases ax with
  | all =>
    obtain rfl := Option.some.inj h
    exact ⟨List.nodup_range, fun k hk => List.mem_range.1 hk⟩
  | one d =>
    obtain ⟨h1, rfl⟩ := (axes_norm_iff n (.one d) axes).1 h
    exact ⟨List.nodup_singleton _, fun k hk => List.mem_singleton.1 hk ▸ pyAxis_lt n d h1⟩
  | many ds => exact ⟨(normAxes_inv h).1, (normAxes_inv h).2.1⟩

/-- **mean = sum of the fibre / number of elements of the fibre** -/
theorem mean_spec_count (x y : NDArray K) (ax : Axes) (keep : Bool) (h : meanForward x ax keep = some y)
    (o : Idx) (ho : validIdx y.shape o) :
    ∃ axes, ax.norm x.shape.length = some axes ∧
      y.get o = (((allIdx x.shape).filter (fun i => reduceIdx axes keep i == o)).map x.get).sum /
        ((((allIdx x.shape).filter (fun i => reduceIdx axes keep i == o)).length : Nat) : K) := by
  obtain ⟨axes, h1, h2, h3⟩ := (mean_spec x ax keep).2 y h
  refine ⟨axes, h1, ?_⟩
  obtain ⟨hnd, hlt⟩ := axes_norm_nodup h1
  rw [h3 o ho, mean_count x.shape axes keep hnd hlt o (h2 ▸ ho)]

end Mean

section MaxMin

/-- the kernel's reduction axes: one normalised dim, or all of them; on a 0-d operand an accepted
    int dim (`0` / `-1`) names no axis -/
def extAxes (n : Nat) (dim : Option Int) : List Nat :=
  match dim with
  | none => List.range n
  | some d => if n = 0 then [] else [pyAxis n d]

theorem extAxes_pos {n : Nat} (hn : n ≠ 0) (d : Int) : extAxes n (some d) = [pyAxis n d] := by
  simp [extAxes, hn]

theorem extAxes_zero (dim : Option Int) : extAxes 0 dim = [] := by
  cases dim <;> rfl

theorem normRed_one_eq (n : Nat) (d : Int) :
    (Axes.one d).normRed n = if RedDimOk n d then some (extAxes n (some d)) else none := by
  cases n with
  | zero =>
    rw [normRed_zero_one, extAxes_zero]
    exact if_congr (redDimOk_zero d).symm rfl rfl
  | succ n =>
    rw [extAxes_pos n.succ_ne_zero, normRed_succ]
    show (normAxis (n + 1) d).map _ = _
    rw [normAxis_eq, Option.map_if]
    exact if_congr (redDimOk_pos n.succ_ne_zero d).symm rfl rfl

theorem normRed_ext (n : Nat) (dim : Option Int) :
    Axes.normRed n (match dim with | none => Axes.all | some d => Axes.one d) =
      if ∀ d, dim = some d → RedDimOk n d then some (extAxes n dim) else none := by
  cases dim with
  | none => rw [if_pos (fun d hd => by cases hd)]; exact normRed_all _
  | some d =>
    exact (normRed_one_eq n d).trans
      (if_congr ⟨fun h d' hd' => Option.some.inj hd' ▸ h, fun h => h d rfl⟩ rfl rfl)

theorem extAxes_lt (n : Nat) (dim : Option Int) (hr : ∀ d, dim = some d → RedDimOk n d) :
    ∀ k ∈ extAxes n dim, k < n := by
  rcases normRed_cases ((normRed_ext n dim).trans (if_pos hr)) with h | ⟨_, h⟩
  · exact (axes_norm_nodup h).2
  · rw [h]; exact nofun

variable {K : Type} [Field K]

/-- max and min in one statement: `r` is a total preorder and the kernel's comparison `better u v` is `¬ r u v`
    (`≤` with `>` for max, `≥` with `<` for min).  The value at an output index is attained on its fibre and every
    entry of the fibre is `r`-below it; the guard "some reduced axis is empty" of the kernel is implied by its
    guard "the operand is empty", so acceptance needs the second only. -/
theorem extForward_spec (r : K → K → Prop) (htot : ∀ u v, r u v ∨ r v u)
    (htr : ∀ u v w, r u v → r v w → r u w) (better : K → K → Bool)
    (hb : ∀ u v, better u v = true ↔ ¬ r u v) (x : NDArray K) (dim : Option Int) (keep : Bool) :
    let n := x.shape.length
    let axes := extAxes n dim
    ((extForward better x dim keep).isSome ↔ (∀ d, dim = some d → RedDimOk n d) ∧ Shape.size x.shape ≠ 0) ∧
    ∀ y, extForward better x dim keep = some y →
      y.shape = reduceShape x.shape axes keep ∧
      ∀ o, validIdx y.shape o →
        (∃ i, validIdx x.shape i ∧ reduceIdx axes keep i = o ∧ y.get o = x.get i) ∧
        (∀ i, validIdx x.shape i → reduceIdx axes keep i = o → r (x.get i) (y.get o)) := by
  intro n axes
  have e : extForward better x dim keep =
      if (∀ d, dim = some d → RedDimOk n d) ∧ Shape.size x.shape ≠ 0 then
        some (ofFn (reduceShape x.shape axes keep) (fun o => x.get (argExt better x axes keep o))) else none := by
    -- the kernel's `match` written out again: elaborated in this file it is the matcher of `normRed_ext`'s
    -- statement, and `rw` finds it (through `extForward_eq` it is another constant, and `rw` does not)
    show (Axes.normRed x.shape.length (match dim with | none => Axes.all | some d => Axes.one d)).bind _ = _
    rw [normRed_ext]
    by_cases hr : ∀ d, dim = some d → RedDimOk n d
    · rw [if_pos hr, Option.bind_some, ← ite_not]
      refine if_congr ?_ rfl rfl
      -- a reduced axis of size 0 would make the operand empty: the first test is subsumed by the second
      rw [Bool.or_eq_true, not_or, decide_eq_true_eq, List.any_eq_true]
      exact ⟨fun h => ⟨hr, h.2⟩, fun h => ⟨fun ⟨k, hk, h0⟩ =>
        getD_ne_zero_of_size_ne_zero _ h.2 k (extAxes_lt n dim hr k hk) (beq_iff_eq.1 h0), h.2⟩⟩
    · rw [if_neg hr, if_neg (fun h => hr h.1)]; rfl
  refine spec_of_eq e fun ⟨hr, hsz⟩ => ⟨rfl, fun o ho => ?_⟩
  obtain ⟨h1, h2, h3, h4⟩ := Proofs.Subgrad.argExt_spec r htot htr better hb x _ dim keep
    (e.trans (if_pos ⟨hr, hsz⟩)) axes ((normRed_ext n dim).trans (if_pos hr)) o ho
  exact ⟨⟨_, h1, h2, h3⟩, fun i hi hio => h3 ▸ h4 i hi hio⟩

variable [LinearOrder K]

/-- **max(dim | None, keepdims)**, forward values: accepted exactly when `dim` (if given) lies in
    `[-ndim, ndim)` — or is `0` / `-1` on a 0-d operand (`RedDimOk`; nothing is reduced then:
    `extAxes 0 dim = []`, the result is the operand, see `max_zero_dim`) — and the operand has at least
    one element (*corner*: an empty operand is rejected even when the reduced axis itself is non-empty);
    the shape drops (or keeps as 1) the reduced axis / all axes; the value at an output index is the
    maximum of its fibre — it is attained at an operand index of the fibre and dominates every entry
    of the fibre. -/
theorem max_spec (x : NDArray K) (dim : Option Int) (keep : Bool) :
    let n := x.shape.length
    let axes := extAxes n dim
    ((maxForward x dim keep).isSome ↔ (∀ d, dim = some d → RedDimOk n d) ∧ Shape.size x.shape ≠ 0) ∧
    ∀ y, maxForward x dim keep = some y →
      y.shape = reduceShape x.shape axes keep ∧
      ∀ o, validIdx y.shape o →
        (∃ i, validIdx x.shape i ∧ reduceIdx axes keep i = o ∧ y.get o = x.get i) ∧
        (∀ i, validIdx x.shape i → reduceIdx axes keep i = o → x.get i ≤ y.get o) :=
  extForward_spec (fun u v => u ≤ v) le_total (fun _ _ _ => le_trans) _ (by intro u v; simp) x dim keep

/-- **min(dim | None, keepdims)**, forward values: as `max_spec`, with the minimum of the fibre. -/
theorem min_spec (x : NDArray K) (dim : Option Int) (keep : Bool) :
    let n := x.shape.length
    let axes := extAxes n dim
    ((minForward x dim keep).isSome ↔ (∀ d, dim = some d → RedDimOk n d) ∧ Shape.size x.shape ≠ 0) ∧
    ∀ y, minForward x dim keep = some y →
      y.shape = reduceShape x.shape axes keep ∧
      ∀ o, validIdx y.shape o →
        (∃ i, validIdx x.shape i ∧ reduceIdx axes keep i = o ∧ y.get o = x.get i) ∧
        (∀ i, validIdx x.shape i → reduceIdx axes keep i = o → y.get o ≤ x.get i) :=
  extForward_spec (fun u v => v ≤ u) (fun u v => le_total v u) (fun _ _ _ h1 h2 => le_trans h2 h1) _
    (by intro u v; simp) x dim keep

example : ∃ y, maxForward (⟨[2, 3], [1, 5, 2, 7, 0, 7]⟩ : NDArray Rat) (some (-1)) true = some y ∧
    y.shape = [2, 1] := by decide +kernel
example : ∃ y, minForward (⟨[2, 3], [1, 5, 2, 7, 0, 7]⟩ : NDArray Rat) none false = some y ∧
    y.shape = [] := by decide +kernel
/-- the hypotheses of `max_spec` on a concrete operand: the row maximum dominates the entry `5` -/
example : ∀ y, maxForward (⟨[2, 3], [1, 5, 2, 7, 0, 7]⟩ : NDArray Rat) (some (-1)) true = some y →
    (5 : Rat) ≤ y.get [0, 0] := by
  intro y hy
  obtain ⟨_, hv⟩ := (max_spec _ _ _).2 y hy
  exact (hv [0, 0] (by cases hy; exact ⟨by decide, by decide, trivial⟩)).2 [0, 1]
    ⟨by decide, by decide, trivial⟩ (by decide)
example : maxForward (⟨[0, 3], []⟩ : NDArray Rat) (some 1) false = none := by decide
example : maxForward (⟨[2, 3], [1, 5, 2, 7, 0, 7]⟩ : NDArray Rat) (some 2) false = none := by decide

end MaxMin

section ZeroDim
/-! ### sum / max / min of a 0-d operand along `dim = 0` or `dim = -1`

NumPy's ufunc reductions accept exactly these two integer axes on a 0-d array (every other int and
every non-empty tuple is an AxisError; `np.mean` rejects them all) and reduce nothing; the backward
kernels return the upstream gradient unchanged. -/

variable {R : Type} [CommRing R]

/-- **sum of a 0-d operand**: which `dim` arguments are accepted — `None`, the ints `0` and `-1`,
    the empty tuple; nothing else (in particular not the tuples `(0,)`, `(-1,)`) -/
theorem sum_zero_dim_accepts (x : NDArray R) (hs : x.shape = []) (ax : Axes) (keep : Bool) :
    (sumForward x ax keep).isSome ↔ ax = .all ∨ ax = .one 0 ∨ ax = .one (-1) ∨ ax = .many [] := by
  rw [sumForward_eq, Option.isSome_map, hs, List.length_nil]
  cases ax with
  | all => exact iff_of_true rfl (Or.inl rfl)
  | one d =>
    rw [normRed_zero_one]
    split_ifs with hd <;> simpa using hd
  | many ds =>
    rw [normRed_many]
    show (normAxes 0 ds).isSome ↔ _
    rw [normAxes_eq]
    cases ds with
    | nil =>
      rw [if_pos ⟨fun _ h => (nomatch h), List.nodup_nil⟩]
      exact iff_of_true rfl (Or.inr (Or.inr (Or.inr rfl)))
    | cons d ds =>
      rw [if_neg (fun h => not_inRange_zero d (h.1 d List.mem_cons_self))]
      exact iff_of_false (fun h => nomatch h) (by simp)

/-- `mean` of a 0-d operand rejects every int dim (as `np.mean` does) -/
theorem mean_zero_dim_rejects {K : Type} [Field K] (x : NDArray K) (hs : x.shape = []) (d : Int) (keep : Bool) :
    meanForward x (.one d) keep = none := by
  rw [meanForward_eq, hs, List.length_nil, norm_zero_one]
  rfl

section
variable {K : Type} [Field K] [LinearOrder K]

/-- **max of a 0-d operand along dim 0 / −1 is the operand** (shape `()` with and without `keepdims`) -/
theorem max_zero_dim (x : NDArray K) (hx : x.WF) (hs : x.shape = []) (d : Int) (hd : d = 0 ∨ d = -1)
    (keep : Bool) : maxForward x (some d) keep = some x := ext_zero_dim _ x hx hs d hd keep

/-- … its backward returns the upstream gradient (mask 1) -/
theorem max_zero_dim_backward (g x : NDArray K) (hg : g.WF) (hgs : g.shape = []) (hs : x.shape = []) (d : Int)
    (hd : d = 0 ∨ d = -1) (keep : Bool) : maxBackward g x (some d) keep = some g :=
  ext_zero_dim_backward _ g x hg hgs hs d hd keep

theorem min_zero_dim (x : NDArray K) (hx : x.WF) (hs : x.shape = []) (d : Int) (hd : d = 0 ∨ d = -1)
    (keep : Bool) : minForward x (some d) keep = some x := ext_zero_dim _ x hx hs d hd keep

theorem min_zero_dim_backward (g x : NDArray K) (hg : g.WF) (hgs : g.shape = []) (hs : x.shape = []) (d : Int)
    (hd : d = 0 ∨ d = -1) (keep : Bool) : minBackward g x (some d) keep = some g :=
  ext_zero_dim_backward _ g x hg hgs hs d hd keep

/-- on a 0-d operand `max` accepts exactly `None`, `0`, `-1` (instance of `max_spec`) -/
theorem max_zero_dim_accepts (x : NDArray K) (hs : x.shape = []) (dim : Option Int) (keep : Bool) :
    (maxForward x dim keep).isSome ↔ dim = none ∨ dim = some 0 ∨ dim = some (-1) := by
  rw [(max_spec x dim keep).1, hs]
  simp only [List.length_nil, redDimOk_zero, size_nil]
  cases dim with
  | none => simp
  | some d => simp
end

/-! non-vacuity of the 0-d branch: the accepted calls, the rejected neighbours -/
example : sumForward (⟨[], [3]⟩ : NDArray Int) (.one 0) false = some ⟨[], [3]⟩ := rfl
example : sumForward (⟨[], [3]⟩ : NDArray Int) (.one (-1)) true = some ⟨[], [3]⟩ := rfl
example : sumForward (⟨[], [3]⟩ : NDArray Int) (.one 1) false = none := by decide
example : sumForward (⟨[], [3]⟩ : NDArray Int) (.one (-2)) true = none := by decide
example : sumForward (⟨[], [3]⟩ : NDArray Int) (.many [0]) false = none := by decide
example : sumForward (⟨[], [3]⟩ : NDArray Int) (.many [-1]) true = none := by decide
example : sumForward (⟨[], [3]⟩ : NDArray Int) (.many []) true = some ⟨[], [3]⟩ := rfl
example : sumBackward (⟨[], [5]⟩ : NDArray Int) [] (.one 0) false = some ⟨[], [5]⟩ := rfl
example : sumBackward (⟨[], [5]⟩ : NDArray Int) [] (.one (-1)) true = some ⟨[], [5]⟩ := rfl
example : meanForward (⟨[], [3]⟩ : NDArray Rat) (.one 0) false = none := by decide
example : meanForward (⟨[], [3]⟩ : NDArray Rat) (.one (-1)) true = none := by decide
example : maxForward (⟨[], [3]⟩ : NDArray Int) (some 0) false = some ⟨[], [3]⟩ := rfl
example : maxForward (⟨[], [3]⟩ : NDArray Int) (some (-1)) true = some ⟨[], [3]⟩ := rfl
example : minForward (⟨[], [3]⟩ : NDArray Int) (some 0) true = some ⟨[], [3]⟩ := rfl
example : minForward (⟨[], [3]⟩ : NDArray Int) (some (-1)) false = some ⟨[], [3]⟩ := rfl
example : maxForward (⟨[], [3]⟩ : NDArray Int) (some 1) false = none := by decide
example : minForward (⟨[], [3]⟩ : NDArray Int) (some (-2)) true = none := by decide
example : maxBackward (⟨[], [5]⟩ : NDArray Int) ⟨[], [3]⟩ (some 0) false = some ⟨[], [5]⟩ := rfl
example : minBackward (⟨[], [5]⟩ : NDArray Int) ⟨[], [3]⟩ (some (-1)) true = some ⟨[], [5]⟩ := rfl
/-- on a 1-d operand `dim = -1` names the axis -/
example : maxForward (⟨[2], [3, 4]⟩ : NDArray Int) (some (-1)) true = some ⟨[1], [4]⟩ := rfl
/-- `axes_normRed_iff` / `RedDimOk` on the boundary -/
example : (Axes.one (-1)).normRed 0 = some [] ∧ (Axes.one 1).normRed 0 = none ∧ (Axes.many [0]).normRed 0 = none ∧
    (Axes.one (-1)).normRed 2 = some [1] ∧ (Axes.one 0).norm 0 = none := by decide
example : RedDimOk 0 (-1) ∧ ¬ RedDimOk 0 1 ∧ ¬ RedDimOk 0 (-2) ∧ RedDimOk 2 (-2) ∧ ¬ RedDimOk 2 2 := by decide

end ZeroDim

example : (Axes.many [0, -1]).norm 3 = some [0, 2] :=
  (axes_norm_iff 3 (.many [0, -1]) [0, 2]).2 ⟨by decide, by decide, by decide⟩

example : ((allIdx [2, 3]).filter (fun i => reduceIdx [1] false i == [1])).length = 3 :=
  mean_count [2, 3] [1] false (by decide) (by decide) [1] (by simp [reduceShape, dropAxes, validIdx])

example : ∀ y, meanForward (⟨[2, 2], [1, 2, 3, 6]⟩ : NDArray Rat) .all false = some y →
    y.get [] = (((allIdx [2, 2]).filter (fun i => reduceIdx [0, 1] false i == [])).map
      (⟨[2, 2], [1, 2, 3, 6]⟩ : NDArray Rat).get).sum /
      ((((allIdx [2, 2]).filter (fun i => reduceIdx [0, 1] false i == [])).length : Nat) : Rat) := by
  intro y h
  obtain ⟨axes, h1, h2⟩ := mean_spec_count _ y .all false h [] (by cases h; exact trivial)
  cases h1
  exact h2

example : ∀ y, minForward (⟨[2, 2], [4, 2, 3, 6]⟩ : NDArray Rat) none false = some y →
    ∃ i, validIdx [2, 2] i ∧ y.get [] = (⟨[2, 2], [4, 2, 3, 6]⟩ : NDArray Rat).get i := by
  intro y hy
  obtain ⟨_, hv⟩ := (min_spec _ _ _).2 y hy
  obtain ⟨⟨i, h1, _, h3⟩, _⟩ := hv [] (by cases hy; exact trivial)
  exact ⟨i, h1, h3⟩

end Proofs.SpecOps
