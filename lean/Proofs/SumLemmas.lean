import Proofs.Core
import Mathlib.Algebra.BigOperators.Group.Finset.Sigma
/-!
# Index-function arrays against `Finset` sums

Congruence of `ofFn`, the valid indices of rank 2, 3 and 4 spelt out, the list sums of the model (over `List.range`
and `allIdx`) as sums over `Finset.range`, `dot` against an index-function array, and the rearrangements of
nested and guarded sums that the kernels' proofs share.  Nothing here is about convolutions: the namespace is
`Proofs.ConvTools` because Proofs/ConvToolsLemmas.lean continues in it.
-/
namespace Proofs.ConvTools
open Synap Synap.NDArray Proofs.Core

theorem ofFn_congr {α : Type} (s : Shape) (f g : Idx → α) (h : ∀ i, validIdx s i → f i = g i) :
    ofFn s f = ofFn s g :=
  congrArg (NDArray.mk s) (map_allIdx_congr s f g h)

theorem validIdx2 {a b : Nat} {q : Idx} (h : validIdx [a, b] q) : ∃ i j, q = [i, j] ∧ i < a ∧ j < b := by
  obtain ⟨i, q, rfl, hi, h⟩ := validIdx_cons h
  obtain ⟨j, q, rfl, hj, h⟩ := validIdx_cons h
  cases q with
  | nil => exact ⟨i, j, rfl, hi, hj⟩
  | cons _ _ => exact h.elim

theorem validIdx3 {a b c : Nat} {q : Idx} (h : validIdx [a, b, c] q) :
    ∃ i j k, q = [i, j, k] ∧ i < a ∧ j < b ∧ k < c := by
  obtain ⟨i, q, rfl, hi, h⟩ := validIdx_cons h
  obtain ⟨j, k, rfl, hjk⟩ := validIdx2 h
  exact ⟨i, j, k, rfl, hi, hjk⟩

theorem validIdx4 {a b c d : Nat} {q : Idx} (h : validIdx [a, b, c, d] q) :
    ∃ i j k l, q = [i, j, k, l] ∧ i < a ∧ j < b ∧ k < c ∧ l < d := by
  obtain ⟨i, q, rfl, hi, h⟩ := validIdx_cons h
  obtain ⟨j, k, l, rfl, hjkl⟩ := validIdx3 h
  exact ⟨i, j, k, l, rfl, hi, hjkl⟩

open Finset

section Sums
variable {M : Type} [AddCommMonoid M]

theorem sum_map_range (n : Nat) (f : Nat → M) :
    ((List.range n).map f).sum = ∑ i ∈ range n, f i :=
  -- `Finset.range n` is `List.range n` read as a multiset, so the right side is the sum of a multiset given by a list;
  -- not stated as `rfl`: the `simp only [sum_map_range, …]` calls downstream get dearer with a `rfl` lemma
  (Multiset.sum_coe ((List.range n).map f)).symm

theorem sum_flatMap_range (n : Nat) (F : Nat → List M) :
    ((List.range n).flatMap F).sum = ∑ i ∈ range n, (F i).sum := by
  rw [← sum_map_range, List.flatMap_def, List.sum_flatten, List.map_map]; rfl

theorem sum_allIdx_nil (F : Idx → M) : ((allIdx []).map F).sum = F [] := by simp [allIdx]

theorem sum_allIdx_cons (n : Nat) (s : Shape) (F : Idx → M) :
    ((allIdx (n :: s)).map F).sum = ∑ a ∈ range n, ((allIdx s).map (fun i => F (a :: i))).sum := by
  rw [allIdx, List.map_flatMap, sum_flatMap_range]
  simp only [List.map_map, Function.comp_def]

theorem countP_allIdx_cons (n : Nat) (s : Shape) (q : Idx → Bool) :
    (allIdx (n :: s)).countP q = ∑ a ∈ Finset.range n, (allIdx s).countP fun i => q (a :: i) := by
  rw [allIdx, List.countP_flatMap, sum_map_range]
  exact Finset.sum_congr rfl fun a _ => List.countP_map

theorem sum_allIdx3 (a b c : Nat) (F : Idx → M) :
    ((allIdx [a, b, c]).map F).sum = ∑ i ∈ range a, ∑ j ∈ range b, ∑ k ∈ range c, F [i, j, k] := by
  simp only [sum_allIdx_cons, sum_allIdx_nil]

/-- the last two axes summed as one index pair, so that a 2-d kernel is a 1-d kernel over pairs -/
theorem sum_allIdx4p (a b c d : Nat) (F : Idx → M) :
    ((allIdx [a, b, c, d]).map F).sum
      = ∑ i ∈ range a, ∑ j ∈ range b, ∑ t ∈ range c ×ˢ range d, F [i, j, t.1, t.2] := by
  rw [sum_allIdx_cons]
  refine Finset.sum_congr rfl fun i _ => ?_
  rw [sum_allIdx3]
  exact Finset.sum_congr rfl fun j _ => (Finset.sum_product (range c) (range d) fun t => F [i, j, t.1, t.2]).symm

theorem sum_range_mul (m n : Nat) (f : Nat → M) :
    ∑ k ∈ range (m * n), f k = ∑ i ∈ range m, ∑ j ∈ range n, f (i * n + j) := by
  induction m with
  | zero => simp
  | succ m ih => rw [Nat.succ_mul, Finset.sum_range_add, ih, Finset.sum_range_succ]

theorem sum_range_ite_add (n p t : Nat) (F : Nat → M) :
    ∑ k ∈ range n, (if t = k + p then F k else 0) = if p ≤ t ∧ t < p + n then F (t - p) else 0 := by
  by_cases hp : p ≤ t
  · -- `t = k + p ↔ t - p = k`: the one term is `k = t - p`, if that is in range
    simp only [← Nat.sub_eq_iff_eq_add hp, Finset.sum_ite_eq, Finset.mem_range, Nat.sub_lt_iff_lt_add' hp, hp,
      true_and]
  · rw [if_neg fun h => hp h.1]
    refine Finset.sum_eq_zero fun k _ => if_neg fun h => hp ?_
    rw [h]
    exact Nat.le_add_left p k

theorem sum_swap22 {ι κ μ ν : Type} (s : Finset ι) (t : Finset κ) (u : Finset μ) (v : Finset ν)
    (f : ι → κ → μ → ν → M) :
    ∑ a ∈ s, ∑ b ∈ t, ∑ c ∈ u, ∑ d ∈ v, f a b c d = ∑ c ∈ u, ∑ d ∈ v, ∑ a ∈ s, ∑ b ∈ t, f a b c d := by
  rw [sum_comm_cycle]
  apply Finset.sum_congr rfl
  intro i _
  rw [sum_comm_cycle]

theorem sum_pair_ite (H W : Nat) (oh ow : Option Nat) (hh : ∀ q, oh = some q → q < H)
    (hw : ∀ q, ow = some q → q < W) (F : Nat → Nat → M) :
    (∑ qh ∈ range H, ∑ qw ∈ range W, if oh = some qh ∧ ow = some qw then F qh qw else 0)
      = match (generalizing := false) oh, ow with | some a, some b => F a b | _, _ => 0 := by
  cases oh with
  | none => simp
  | some q0 =>
    cases ow with
    | none => simp
    | some q1 =>
      simp only [Option.some.injEq, ite_and, ← ite_sum_zero, Finset.sum_ite_eq, Finset.mem_range,
        if_pos (hh q0 rfl), if_pos (hw q1 rfl)]

end Sums

theorem dot_ofFn_right {R : Type} [CommSemiring R] (x : NDArray R) (s : Shape) (f : Idx → R) (hs : x.shape = s) :
    dot x (ofFn s f) = ((allIdx s).map (fun i => x.get i * f i)).sum := by
  rw [dot_eq_sum, hs]
  exact sum_allIdx_congr s _ _ fun i hi => by rw [get_ofFn s f i hi]

end Proofs.ConvTools
