import Proofs.AdjointGeneral
import Proofs.SumLemmas
/-!
# Reductions: `reduceIdx` as a map of index sets (valid to valid, the size of its fibres), the axes
`Axes.normRed` accepts, the reductions in closed form, and `sum` / `unreduce` as transposes
-/
namespace Proofs.Adjoint
open Synap Synap.NDArray Synap.Np Proofs.Core

theorem reduceIdx_valid (s : Shape) (axes : List Nat) (keep : Bool) (i : Idx) (h : validIdx s i) :
    validIdx (reduceShape s axes keep) (reduceIdx axes keep i) := by
  rw [reduceShape_eq_maskFrom, reduceIdx_eq_maskFrom]
  exact maskFrom_valid axes keep s i 0 h

theorem countP_cons_eq (M : Idx → Idx) (h o0 : Nat) (o' : Idx) (l : List Idx) :
    l.countP (fun i => (h :: M i) == (o0 :: o')) = if h = o0 then l.countP (fun i => M i == o') else 0 := by
  by_cases hh : h = o0
  · subst hh
    rw [if_pos rfl]
    exact List.countP_congr fun i _ => by rw [beq_iff_eq, beq_iff_eq, List.cons_inj_right]
  · rw [if_neg hh, List.countP_eq_zero]
    exact fun i _ hc => hh (List.cons.inj (beq_iff_eq.1 hc)).1

/-- the fibre of an output index has as many elements as the reduced sizes multiply to (an axis that is
    not reduced pins its coordinate, a reduced one leaves it free) -/
theorem fibre_count (axes : List Nat) (keep : Bool) (s : Shape) (m : Nat) (o : Idx)
    (ho : validIdx (maskFrom 1 m axes keep s) o) :
    (allIdx s).countP (fun i => maskFrom 0 m axes keep i == o) =
      ∏ p ∈ Finset.range s.length, if (m + p) ∈ axes then s.getD p 0 else 1 := by
  induction s generalizing m o with
  | nil =>
    rw [maskFrom_nil] at ho
    cases o with
    | nil => cases keep <;> rfl
    | cons _ _ => exact ho.elim
  | cons n s ih =>
    replace ih := ih (m + 1)
    simp only [Nat.add_assoc, Nat.add_comm 1] at ih
    rw [maskFrom_cons] at ho
    rw [ConvTools.countP_allIdx_cons, List.length_cons, Finset.prod_range_succ']
    simp only [maskFrom_cons, List.getD_cons_succ, List.getD_cons_zero, Nat.add_zero]
    -- the fibre by first coordinate: `∑ a < n, #{i | mask (a :: i) = o} = (the tail's product) * (if m ∈ axes then n else 1)`
    by_cases hm : m ∈ axes
    · simp only [if_pos hm] at ho ⊢
      cases keep with
      | false =>
        simp only [Bool.false_eq_true, if_false] at ho ⊢
        -- the head is dropped: each of the `n` values of `a` contributes the tail's count
        rw [Finset.sum_const, Finset.card_range, Nat.nsmul_eq_mul, ih o ho, Nat.mul_comm]
      | true =>
        cases o with
        | nil => exact ho.elim
        | cons o0 o' =>
          obtain rfl : o0 = 0 := Nat.lt_one_iff.1 ho.1
          -- the head is overwritten by `0 = o0`: again each `a` contributes the tail's count
          simp only [if_true, countP_cons_eq, Finset.sum_const, Finset.card_range, Nat.nsmul_eq_mul, ih o' ho.2,
            Nat.mul_comm]
    · simp only [if_neg hm] at ho ⊢
      cases o with
      | nil => exact ho.elim
      | cons o0 o' =>
        -- the head is kept: only `a = o0` contributes, and `o0 < n` by `ho.1`
        simp only [countP_cons_eq, Finset.sum_ite_eq', Finset.mem_range, if_pos ho.1, ih o' ho.2, Nat.mul_one]

/-- when no reduced axis is empty no fibre is: no factor of its size is `0` -/
theorem fibre_ne_nil (s : Shape) (axes : List Nat) (keep : Bool)
    (hpos : ∀ k ∈ axes, s.getD k 0 ≠ 0) (o : Idx) (ho : validIdx (reduceShape s axes keep) o) :
    (allIdx s).filter (fun i => reduceIdx axes keep i == o) ≠ [] := by
  rw [reduceShape_eq_maskFrom] at ho
  rw [Ne, ← List.length_eq_zero_iff, ← List.countP_eq_length_filter]
  simp only [reduceIdx_eq_maskFrom]
  rw [fibre_count axes keep s 0 o ho]
  refine Finset.prod_ne_zero_iff.2 fun p _ => ?_
  split_ifs with h
  · exact hpos p (by rwa [Nat.zero_add] at h)
  · exact Nat.one_ne_zero

theorem dropAxes_range {α : Type} (l : List α) : dropAxes l (List.range l.length) = [] := by
  unfold dropAxes
  rw [List.map_eq_nil_iff, List.filter_eq_nil_iff]
  rintro ⟨x, n⟩ hm
  have := List.mem_zipIdx hm
  simp only [List.contains_eq_mem, List.mem_range, Bool.not_eq_true', decide_eq_false_iff_not]
  omega

theorem reduceShape_nil (s : Shape) (keep : Bool) : reduceShape s [] keep = s :=
  (reduceShape_eq_maskFrom [] keep s).trans (maskFrom_of_lt 1 keep s nofun)

theorem reduceIdx_nil (keep : Bool) (i : Idx) : reduceIdx [] keep i = i :=
  (reduceIdx_eq_maskFrom [] keep i).trans (maskFrom_of_lt 0 keep i nofun)

theorem reduceShape_all_nokeep (s : Shape) : reduceShape s (List.range s.length) false = [] := by
  simp [reduceShape, dropAxes_range]

theorem norm_zero_one (a : Int) : Axes.norm 0 (.one a) = none := by
  show (normAxis 0 a).map _ = none
  rw [SpecOps.normAxis_eq, if_neg (SpecOps.not_inRange_zero a)]
  rfl

theorem normRed_all (n : Nat) : Axes.normRed n .all = some (List.range n) := by
  cases n <;> rfl

theorem normRed_many (n : Nat) (ds : List Int) : Axes.normRed n (.many ds) = Axes.norm n (.many ds) := by
  cases n <;> rfl

theorem normRed_succ (n : Nat) (ax : Axes) : Axes.normRed (n + 1) ax = Axes.norm (n + 1) ax := rfl

theorem normRed_zero_one (a : Int) :
    Axes.normRed 0 (.one a) = if a = 0 ∨ a = -1 then some [] else none := rfl

theorem normRed_iff (n : Nat) (ax : Axes) (axes : List Nat) :
    Axes.normRed n ax = some axes ↔
      Axes.norm n ax = some axes ∨ (n = 0 ∧ (ax = .one 0 ∨ ax = .one (-1)) ∧ axes = []) := by
  cases n with
  | succ n => exact (or_iff_left fun h => n.succ_ne_zero h.1).symm
  | zero =>
    cases ax with
    | all => exact (or_iff_left fun h => h.2.1.elim nofun nofun).symm
    | many ds => exact (or_iff_left fun h => h.2.1.elim nofun nofun).symm
    | one a =>
      rw [normRed_zero_one, norm_zero_one, Option.ite_none_right_eq_some]
      simp [eq_comm]

theorem normRed_of_norm {n : Nat} {ax : Axes} {axes : List Nat} (h : Axes.norm n ax = some axes) :
    Axes.normRed n ax = some axes :=
  (normRed_iff n ax axes).2 (.inl h)

/-- the axes are distinct from `Axes.norm`'s only on a 0-d array, where they are `[]` -/
theorem normRed_cases {n : Nat} {ax : Axes} {axes : List Nat} (h : Axes.normRed n ax = some axes) :
    Axes.norm n ax = some axes ∨ (n = 0 ∧ axes = []) := by
  rcases (normRed_iff n ax axes).1 h with h | ⟨h0, _, h2⟩
  · exact Or.inl h
  · exact Or.inr ⟨h0, h2⟩

/-! ### `sum` / `mean` in closed form: accepted exactly on the axes `Axes.normRed` / `Axes.norm`
    accept, the value the scatter-add along `reduceIdx` (entries: `Proofs.Core.get_scatterAdd`,
    `get_map_scatterAdd`) -/
section ClosedForm
open Synap.Kernels
variable {α β : Type} [Zero α] [Add α]

theorem sumForward_eq (x : NDArray α) (ax : Axes) (keep : Bool) :
    sumForward x ax keep = (ax.normRed x.shape.length).map fun axes =>
      scatterAdd (reduceShape x.shape axes keep) x.shape (reduceIdx axes keep) x := by
  rw [Option.map_eq_bind]
  rfl

theorem meanForward_eq [Div α] [NatCast α] (x : NDArray α) (ax : Axes) (keep : Bool) :
    meanForward x ax keep = (ax.norm x.shape.length).map fun axes =>
      (scatterAdd (reduceShape x.shape axes keep) x.shape (reduceIdx axes keep) x).map
        (· / (((axes.map fun k => x.shape.getD k 0).foldr (· * ·) 1 : Nat) : α)) := by
  unfold meanForward
  cases h : ax.norm x.shape.length with
  | none => rfl
  | some axes =>
    rw [show Np.sum x ax keep = _ from sumForward_eq x ax keep, normRed_of_norm h]
    rfl

theorem get_map_scatterAdd [Zero β] (f : α → β) (s t : Shape) (φ : Idx → Idx) (x : NDArray α) (o : Idx)
    (ho : validIdx s o) :
    ((scatterAdd s t φ x).map f).get o = f ((((allIdx t).filter (fun j => φ j == o)).map x.get).sum) := by
  rw [Proofs.Calc.get_map f _ (scatterAdd_wf _ _ _ _) o ho, get_scatterAdd _ _ _ _ _ ho]

/-- `max` / `min` in closed form (the entry read at `argExt`: `Proofs.Subgrad.argExt_spec`) -/
theorem extForward_eq {α : Type} [Zero α] (better : α → α → Bool)
    (x : NDArray α) (dim : Option Int) (keep : Bool) :
    extForward better x dim keep =
      ((match dim with | none => Axes.all | some d => Axes.one d).normRed x.shape.length).bind fun axes =>
        if (axes.any fun k => x.shape.getD k 0 == 0) || decide (x.shape.size = 0) then none
        else some (ofFn (reduceShape x.shape axes keep) fun o => x.get (argExt better x axes keep o)) :=
  rfl

end ClosedForm

variable {R : Type} [CommSemiring R]

/-- `sum` over normalised axes (a scatter-add along `reduceIdx`) and `unreduce` (the gather along
    the same map) are transposes.  `keep'` is the flag the backward uses: it may differ from `keep`
    only when the reduced array is 0-d, whose `get` ignores the index. -/
theorem sum_unreduce_adj (sa : Shape) (axes : List Nat) (keep keep' : Bool)
    (hk : keep' = keep ∨ reduceShape sa axes keep = []) :
    IsAdjoint (R := R) sa (reduceShape sa axes keep)
      (fun v => some (scatterAdd (reduceShape sa axes keep) sa (reduceIdx axes keep) v))
      (fun g => some (unreduce g sa axes keep')) := by
  apply IsAdjoint.symm
  apply isAdjoint_of_gather_spec (reduceShape sa axes keep) sa (reduceIdx axes keep) (fun _ => 1)
    (fun i hi => reduceIdx_valid sa axes keep i hi)
  · intro g _ hgs
    refine ⟨_, rfl, gather_wf _ _ _, rfl, ?_⟩
    intro i hi
    rw [unreduce, get_gather _ _ _ _ hi, mul_one]
    rcases hk with hk | hk
    · rw [hk]
    · exact get_shape_nil g (hgs.trans hk) _ _
  · intro v _ _
    refine ⟨_, rfl, scatterAdd_wf _ _ _ _, rfl, ?_⟩
    intro o ho
    rw [get_scatterAdd _ _ _ _ _ ho]
    exact congrArg List.sum (List.map_congr_left fun j _ => (one_mul _).symm)

theorem sum_nil_axes (x : NDArray R) (hx : x.WF) (ax : Axes) (keep : Bool)
    (hn : ax.normRed x.shape.length = some []) : Np.sum x ax keep = some x := by
  show (Axes.normRed x.shape.length ax).bind _ = _
  rw [hn, Option.bind_some, reduceShape_nil,
    scatterAdd_eq_gather_of_bij x.shape x.shape (reduceIdx [] keep) id (fun _ h => h)
      (fun j _ => reduceIdx_nil keep j) (fun j _ => reduceIdx_nil keep j)]
  exact congrArg some (ofFn_get x hx)

end Proofs.Adjoint
