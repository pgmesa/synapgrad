import Proofs.AdjointAlg
import Proofs.ConvToolsLemmas
/-!
# What the adjoint proofs of the nn kernels (Props/C02) are built from

`winPos` in closed form, option/shape bookkeeping of `swapaxes`, `isAdjoint_of_ofFn`, the exchange-of-summation
cores behind the convolution / pooling adjoint identities (over arbitrary finite index types: the 2-d kernels
use them with pairs as indices), inversion of the accepted convolution / pooling / NLL kernels, and the closed
forms of the convolution and average-pooling kernels as finite sums in which a window read is a guarded sum over
the axis.  The two adjoints of `linear` without bias are proved here (C02 and C14 both use them).
-/
namespace Proofs.Adjoint
open Synap Synap.NDArray Synap.Np Synap.Kernels Proofs.Core

export Proofs.ConvTools (sum_map_range sum_flatMap_range sum_allIdx_nil sum_allIdx_cons sum_allIdx3 sum_allIdx4p
  sum_swap22 sum_pair_ite dot_ofFn_right getI_cons_zero getI_cons_succ)

section Swap
variable {α : Type} [Zero α]

theorem swapaxes_wf (w wt : NDArray α) (a b : Int) (h : swapaxes w a b = some wt) :
    wt.WF ∧ wt.shape.length = w.shape.length := by
  rw [Proofs.SpecOps.swapaxes_eq] at h
  split_ifs at h
  obtain rfl := Option.some.inj h
  exact ⟨ofFn_wf _ _, (length_permute _ _).trans (length_swapPerm _ _ _)⟩

/-- acceptance depends on the rank alone -/
theorem swapaxes_some (w wt g : NDArray α) (a b : Int) (h : swapaxes w a b = some wt)
    (hl : g.shape.length = w.shape.length) : ∃ gt, swapaxes g a b = some gt := by
  rw [Proofs.SpecOps.swapaxes_eq] at h ⊢
  rw [hl]
  split_ifs at h with hc
  exact ⟨_, if_pos hc⟩

end Swap

/-- `IsAdjoint` for kernels in index-function form: only the exchange of summation is left -/
theorem isAdjoint_of_ofFn {R : Type} [CommSemiring R] {sa sy : Shape} {F B : NDArray R → Option (NDArray R)}
    (h : ∀ v g : NDArray R, v.shape = sa → g.shape = sy → ∃ f b, F v = some (ofFn sy f) ∧ B g = some (ofFn sa b) ∧
      ((allIdx sy).map fun j => f j * g.get j).sum = ((allIdx sa).map fun i => v.get i * b i).sum) :
    IsAdjoint sa sy F B := by
  intro v g _ hvs _ hgs
  obtain ⟨f, b, hF, hB, hd⟩ := h v g hvs hgs
  exact ⟨_, _, hF, hB, ofFn_wf _ _, rfl, ofFn_wf _ _, rfl, by rw [dot_ofFn, dot_ofFn_right _ _ _ hvs]; exact hd⟩

section Cores
open Finset
variable {R : Type} [CommRing R]

/-- convolution, input side: the window read `Σ_q [P t a q] V c q` against the gradient equals the
    input against the scattered gradient -/
theorem conv_core_x {O T C A Q : Type} (sO : Finset O) (sT : Finset T) (sC : Finset C) (sA : Finset A)
    (sQ : Finset Q) (P : T → A → Q → Prop) [∀ t a q, Decidable (P t a q)]
    (W : O → C → A → R) (V : C → Q → R) (G : O → T → R) :
    ∑ o ∈ sO, ∑ t ∈ sT, (∑ c ∈ sC, ∑ a ∈ sA, W o c a * ∑ q ∈ sQ, if P t a q then V c q else 0) * G o t
      = ∑ c ∈ sC, ∑ q ∈ sQ, V c q *
          ∑ o ∈ sO, ∑ t ∈ sT, ∑ a ∈ sA, if P t a q then G o t * W o c a else 0 := by
  have e : ∀ o t c a, W o c a * (∑ q ∈ sQ, if P t a q then V c q else 0) * G o t
      = ∑ q ∈ sQ, V c q * if P t a q then G o t * W o c a else 0 := fun o t c a => by
    rw [Finset.mul_sum, Finset.sum_mul]
    refine Finset.sum_congr rfl fun q _ => ?_
    split_ifs
    · ring
    · simp
  -- every factor under all five sums; what is left is the order of summation.  `e` takes the innermost sum whole:
  -- in one pass from the root `W * (∑ q, …) * G` is met before anything inside it is rewritten
  simp +singlePass only [↓Finset.sum_mul, ↓Finset.mul_sum, ↓e]
  exact (Finset.sum_congr rfl fun o _ => Finset.sum_congr rfl fun t _ => Finset.sum_congr rfl fun c _ =>
    Finset.sum_comm).trans (sum_swap22 sO sT sC sQ _)

/-- convolution, weight side: with `r n c t a` the window read of the input, the output against the gradient
    equals the weight against the gradient-weighted reads -/
theorem conv_core_w {N O T C A : Type} (sN : Finset N) (sO : Finset O) (sT : Finset T) (sC : Finset C)
    (sA : Finset A) (V : O → C → A → R) (r : N → C → T → A → R) (G : N → O → T → R) :
    ∑ n ∈ sN, ∑ o ∈ sO, ∑ t ∈ sT, (∑ c ∈ sC, ∑ a ∈ sA, V o c a * r n c t a) * G n o t
      = ∑ o ∈ sO, ∑ c ∈ sC, ∑ a ∈ sA, V o c a * ∑ n ∈ sN, ∑ t ∈ sT, G n o t * r n c t a := by
  simp +singlePass only [↓Finset.sum_mul, ↓Finset.mul_sum]
  rw [Finset.sum_comm]
  refine Finset.sum_congr rfl (fun o _ => ?_)
  rw [sum_swap22]
  refine Finset.sum_congr rfl (fun c _ => Finset.sum_congr rfl (fun a _ => Finset.sum_congr rfl
    (fun n _ => Finset.sum_congr rfl (fun t _ => ?_))))
  ring

/-- average pooling: window mean (factor `κ`) against the gradient -/
theorem pool_core {T A Q : Type} (sT : Finset T) (sA : Finset A) (sQ : Finset Q)
    (P : T → A → Q → Prop) [∀ t a q, Decidable (P t a q)] (V : Q → R) (G : T → R) (κ : R) :
    ∑ t ∈ sT, (∑ a ∈ sA, ∑ q ∈ sQ, if P t a q then V q else 0) * κ * G t
      = ∑ q ∈ sQ, V q * ∑ t ∈ sT, ∑ a ∈ sA, if P t a q then G t * κ else 0 := by
  simp +singlePass only [↓mul_assoc, ↓Finset.sum_mul, ↓Finset.mul_sum]
  rw [Finset.sum_comm_cycle]
  refine Finset.sum_congr rfl (fun q _ => Finset.sum_congr rfl (fun t _ => Finset.sum_congr rfl
    (fun a _ => ?_)))
  split_ifs
  · ring
  · simp

/-- `winPos` in closed form: window `t`, offset `a` reads padded coordinate `t·s + a·d`, which is real exactly when it
    lies in `[p, p + L)` -/
theorem winPos_eq (L s p d t a : Nat) :
    winPos L s p d t a = if p ≤ t * s + a * d ∧ t * s + a * d < p + L then some (t * s + a * d - p) else none := by
  unfold winPos
  by_cases h1 : t * s + a * d < p
  · rw [if_pos h1, if_neg (by omega)]
  · rw [if_neg h1]
    by_cases h2 : t * s + a * d - p < L
    · rw [if_pos h2, if_pos (by omega)]
    · rw [if_neg h2, if_neg (by omega)]

theorem winPos_lt {L s p d l a q : Nat} (h : winPos L s p d l a = some q) : q < L := by
  rw [winPos_eq] at h
  split_ifs at h with hc
  obtain rfl := Option.some.inj h
  omega

/-- window `t` at kernel offset `a` reads pixel `q`; window, offset and pixel as (row, column) pairs -/
abbrev reads2 (h w : Nat) (s p d t a q : Nat × Nat) : Prop :=
  winPos h s.1 p.1 d.1 t.1 a.1 = some q.1 ∧ winPos w s.2 p.2 d.2 t.2 a.2 = some q.2

theorem readPad1_eq_sum (x : NDArray R) (n c L s p d t a : Nat) :
    readPad1 x 0 n c (winPos L s p d t a)
      = ∑ q ∈ range L, if winPos L s p d t a = some q then x.get [n, c, q] else 0 := by
  cases hp : winPos L s p d t a with
  | none => simp [readPad1]
  | some q0 =>
    have hq := winPos_lt hp
    simp only [readPad1, Option.some.injEq]
    rw [Finset.sum_ite_eq, if_pos (Finset.mem_range.2 hq)]

theorem readPad2_eq_sum (x : NDArray R) (n c H W s1 p1 d1 s2 p2 d2 th a tw b : Nat) :
    readPad2 x 0 n c (winPos H s1 p1 d1 th a) (winPos W s2 p2 d2 tw b)
      = ∑ qh ∈ range H, ∑ qw ∈ range W,
          if winPos H s1 p1 d1 th a = some qh ∧ winPos W s2 p2 d2 tw b = some qw
          then x.get [n, c, qh, qw] else 0 := by
  rw [sum_pair_ite H W _ _ (fun _ => winPos_lt) (fun _ => winPos_lt) (fun qh qw => x.get [n, c, qh, qw])]
  rfl

theorem sum_win2_read (H W : Nat) (k s p d : Nat × Nat) (th tw : Nat) (f : Option (Nat × Nat) → R)
    (hf : f none = 0) :
    ((win2 H W k s p d th tw).map f).sum
      = ∑ a ∈ range k.1, ∑ b ∈ range k.2, ∑ qh ∈ range H, ∑ qw ∈ range W,
          if winPos H s.1 p.1 d.1 th a = some qh ∧ winPos W s.2 p.2 d.2 tw b = some qw
          then f (some (qh, qw)) else 0 := by
  unfold win2
  rw [List.map_flatMap, sum_flatMap_range]
  refine Finset.sum_congr rfl fun a _ => ?_
  rw [List.map_map, sum_map_range]
  refine Finset.sum_congr rfl fun b _ => ?_
  rw [sum_pair_ite H W _ _ (fun q hq => winPos_lt hq) (fun q hq => winPos_lt hq)
    (fun qh qw => f (some (qh, qw))), Function.comp_apply]
  cases winPos H s.1 p.1 d.1 th a <;> cases winPos W s.2 p.2 d.2 tw b <;> simp [hf]

theorem sum_win2_ite (H W : Nat) (k s p d : Nat × Nat) (th tw qh qw : Nat) (c : R) :
    ((win2 H W k s p d th tw).map (fun o => if o = some (qh, qw) then c else 0)).sum
      = ∑ a ∈ range k.1, ∑ b ∈ range k.2,
          if winPos H s.1 p.1 d.1 th a = some qh ∧ winPos W s.2 p.2 d.2 tw b = some qw then c else 0 := by
  unfold win2
  rw [List.map_flatMap, sum_flatMap_range]
  refine Finset.sum_congr rfl fun a _ => ?_
  rw [List.map_map, sum_map_range]
  refine Finset.sum_congr rfl fun b _ => ?_
  rw [Function.comp_apply]
  cases winPos H s.1 p.1 d.1 th a <;> cases winPos W s.2 p.2 d.2 tw b <;> simp

theorem readPad1_zeros (sh : Shape) (n c : Nat) (pos : Option Nat) :
    readPad1 (zeros sh : NDArray R) 0 n c pos = 0 := by
  cases pos <;> simp [readPad1, get_zeros]

theorem get_singleton (v : NDArray R) (m : Nat) (hs : v.shape = [m]) (o : Nat) :
    v.get [o] = v.data.getD o 0 := by
  simp [NDArray.get, hs, ravel, Shape.size]

end Cores

section ConvInv
variable {α : Type} [Zero α] [Add α] [Mul α]

theorem conv1d_inv (x w y : NDArray α) (b : Option (NDArray α)) (s p d : Nat)
    (h : conv1dForward x w b s p d = some y) :
    ∃ n c l co k lo, x.shape = [n, c, l] ∧ w.shape = [co, c, k] ∧ convOut l k s p d = some lo ∧
      (∀ bv, b = some bv → bv.shape.size = co) ∧
      y = ofFn [n, co, lo] (fun j =>
        let acc := ((List.range c).flatMap (fun cc => (List.range k).map (fun a =>
          w.get [getI j 1, cc, a] * readPad1 x 0 (getI j 0) cc (winPos l s p d (getI j 2) a)))).sum
        match (generalizing := false) b with | some bv => acc + bv.data.getD (getI j 1) 0 | none => acc) := by
  unfold conv1dForward at h
  split at h
  · rename_i n c l co ci k hxs hws
    rcases eq_or_ne ci c with rfl | hci
    · rw [if_neg fun h => h rfl] at h
      split at h
      · cases h
      · rename_i lo hlo
        split_ifs at h with hb
        exact ⟨n, ci, l, co, k, lo, hxs, hws, hlo, fun bv hbv => by subst hbv; simpa using hb,
          (Option.some.inj h).symm⟩
    · rw [if_pos hci] at h
      cases h
  · cases h

theorem conv2d_inv (x w y : NDArray α) (b : Option (NDArray α)) (s p d : Nat × Nat)
    (h : conv2dForward x w b s p d = some y) :
    ∃ n c hh ww co kh kw lh lw, x.shape = [n, c, hh, ww] ∧ w.shape = [co, c, kh, kw] ∧
      convOut hh kh s.1 p.1 d.1 = some lh ∧ convOut ww kw s.2 p.2 d.2 = some lw ∧
      (∀ bv, b = some bv → bv.shape.size = co) ∧
      y = ofFn [n, co, lh, lw] (fun j =>
        let acc := ((List.range c).flatMap (fun cc => (List.range kh).flatMap (fun a => (List.range kw).map (fun bb =>
          w.get [getI j 1, cc, a, bb] *
            readPad2 x 0 (getI j 0) cc (winPos hh s.1 p.1 d.1 (getI j 2) a) (winPos ww s.2 p.2 d.2 (getI j 3) bb))))).sum
        match (generalizing := false) b with | some bv => acc + bv.data.getD (getI j 1) 0 | none => acc) := by
  unfold conv2dForward at h
  split at h
  · rename_i n c hh ww co ci kh kw hxs hws
    rcases eq_or_ne ci c with rfl | hci
    · rw [if_neg fun h => h rfl] at h
      split at h
      · rename_i lh lw hlh hlw
        split_ifs at h with hb
        exact ⟨n, ci, hh, ww, co, kh, kw, lh, lw, hxs, hws, hlh, hlw, fun bv hbv => by subst hbv; simpa using hb,
          (Option.some.inj h).symm⟩
      · cases h
    · rw [if_pos hci] at h
      cases h
  · cases h

theorem conv1d_some (x w : NDArray α) (b : Option (NDArray α)) (s p d : Nat) {n c l co k lo : Nat}
    (hx : x.shape = [n, c, l]) (hw : w.shape = [co, c, k]) (hlo : convOut l k s p d = some lo)
    (hb : ∀ bv, b = some bv → bv.shape.size = co) :
    conv1dForward x w b s p d = some (ofFn [n, co, lo] (fun j =>
        let acc := ((List.range c).flatMap (fun cc => (List.range k).map (fun a =>
          w.get [getI j 1, cc, a] * readPad1 x 0 (getI j 0) cc (winPos l s p d (getI j 2) a)))).sum
        match (generalizing := false) b with | some bv => acc + bv.data.getD (getI j 1) 0 | none => acc)) := by
  cases b with
  | none => simp only [conv1dForward, hx, hw, hlo, ne_eq, not_true_eq_false, if_false, Bool.false_eq_true]
  | some bv => simp only [conv1dForward, hx, hw, hlo, hb bv rfl, ne_eq, not_true_eq_false, if_false, bne_self_eq_false, Bool.false_eq_true]

theorem conv2d_some (x w : NDArray α) (b : Option (NDArray α)) (s p d : Nat × Nat) {n c hh ww co kh kw lh lw : Nat}
    (hx : x.shape = [n, c, hh, ww]) (hw : w.shape = [co, c, kh, kw])
    (hlh : convOut hh kh s.1 p.1 d.1 = some lh) (hlw : convOut ww kw s.2 p.2 d.2 = some lw)
    (hb : ∀ bv, b = some bv → bv.shape.size = co) :
    conv2dForward x w b s p d = some (ofFn [n, co, lh, lw] (fun j =>
        let acc := ((List.range c).flatMap (fun cc => (List.range kh).flatMap (fun a => (List.range kw).map (fun bb =>
          w.get [getI j 1, cc, a, bb] *
            readPad2 x 0 (getI j 0) cc (winPos hh s.1 p.1 d.1 (getI j 2) a) (winPos ww s.2 p.2 d.2 (getI j 3) bb))))).sum
        match (generalizing := false) b with | some bv => acc + bv.data.getD (getI j 1) 0 | none => acc)) := by
  cases b with
  | none => simp only [conv2dForward, hx, hw, hlh, hlw, ne_eq, not_true_eq_false, if_false, Bool.false_eq_true]
  | some bv => simp only [conv2dForward, hx, hw, hlh, hlw, hb bv rfl, ne_eq, not_true_eq_false, if_false, bne_self_eq_false, Bool.false_eq_true]
end ConvInv

section PoolGeometry
variable {α : Type}

theorem poolGeom1_eq (x : NDArray α) (k s p d n c l lo : Nat) (hxs : x.shape = [n, c, l])
    (hlo : convOut l k s p d = some lo) : poolGeom1 x k s p d = some (n, c, l, lo) := by
  simp [poolGeom1, hxs, hlo]

theorem poolGeom1_inv (x : NDArray α) (k s p d : Nat) {n c l lo : Nat}
    (h : poolGeom1 x k s p d = some (n, c, l, lo)) : x.shape = [n, c, l] ∧ convOut l k s p d = some lo := by
  unfold poolGeom1 at h
  split at h
  · rename_i hxs
    obtain ⟨_, hlo, he⟩ := Option.map_eq_some_iff.1 h
    cases he
    exact ⟨hxs, hlo⟩
  · cases h

theorem poolGeom2_eq (x : NDArray α) (k s p d : Nat × Nat) (n c hh ww lh lw : Nat)
    (hxs : x.shape = [n, c, hh, ww]) (hlh : convOut hh k.1 s.1 p.1 d.1 = some lh)
    (hlw : convOut ww k.2 s.2 p.2 d.2 = some lw) : poolGeom2 x k s p d = some (n, c, hh, ww, lh, lw) := by
  simp [poolGeom2, hxs, hlh, hlw]

theorem poolGeom2_inv (x : NDArray α) (k s p d : Nat × Nat) {n c hh ww lh lw : Nat}
    (h : poolGeom2 x k s p d = some (n, c, hh, ww, lh, lw)) :
    x.shape = [n, c, hh, ww] ∧ convOut hh k.1 s.1 p.1 d.1 = some lh ∧ convOut ww k.2 s.2 p.2 d.2 = some lw := by
  unfold poolGeom2 at h
  split at h
  · rename_i hxs
    split at h
    · rename_i hlh hlw
      cases h
      exact ⟨hxs, hlh, hlw⟩
    · cases h
  · cases h

end PoolGeometry

section PoolInv
variable {α : Type} [Zero α]

theorem avgPool1d_inv [Add α] [Div α] [NatCast α] (x y : NDArray α) (k s p d : Nat)
    (h : avgPool1dForward x k s p d = some y) :
    ∃ n c l lo, x.shape = [n, c, l] ∧ convOut l k s p d = some lo ∧
      y = ofFn [n, c, lo] (fun j =>
        ((List.range k).map (fun a => readPad1 x 0 (getI j 0) (getI j 1) (winPos l s p d (getI j 2) a))).sum
          / ((k : Nat) : α)) := by
  obtain ⟨⟨n, c, l, lo⟩, hg, hy⟩ := Option.bind_eq_some_iff.1 h
  obtain ⟨h1, h2⟩ := poolGeom1_inv x k s p d hg
  exact ⟨n, c, l, lo, h1, h2, (Option.some.inj hy).symm⟩

theorem maxPool1d_inv [LT α] [DecidableLT α] (x y : NDArray α) (negInf : α) (k s p d : Nat)
    (h : maxPool1dForward x negInf k s p d = some y) :
    ∃ n c l lo, x.shape = [n, c, l] ∧ convOut l k s p d = some lo ∧
      y = ofFn [n, c, lo] (fun j =>
        match firstMax ((List.range k).map (fun a =>
          (winPos l s p d (getI j 2) a).map (fun q => x.get [getI j 0, getI j 1, q]))) with
        | some (v, _) => v | none => negInf) := by
  obtain ⟨⟨n, c, l, lo⟩, hg, hy⟩ := Option.bind_eq_some_iff.1 h
  obtain ⟨h1, h2⟩ := poolGeom1_inv x k s p d hg
  exact ⟨n, c, l, lo, h1, h2, (Option.some.inj hy).symm⟩

theorem avgPool2d_inv [Add α] [Div α] [NatCast α] (x y : NDArray α) (k s p d : Nat × Nat)
    (h : avgPool2dForward x k s p d = some y) :
    ∃ n c hh ww lh lw, x.shape = [n, c, hh, ww] ∧ convOut hh k.1 s.1 p.1 d.1 = some lh ∧
      convOut ww k.2 s.2 p.2 d.2 = some lw ∧
      y = ofFn [n, c, lh, lw] (fun j =>
        ((win2 hh ww k s p d (getI j 2) (getI j 3)).map (fun o =>
          match o with | some (qa, qb) => x.get [getI j 0, getI j 1, qa, qb] | none => 0)).sum
          / ((k.1 * k.2 : Nat) : α)) := by
  obtain ⟨⟨n, c, hh, ww, lh, lw⟩, hg, hy⟩ := Option.bind_eq_some_iff.1 h
  obtain ⟨h1, h2, h3⟩ := poolGeom2_inv x k s p d hg
  exact ⟨n, c, hh, ww, lh, lw, h1, h2, h3, (Option.some.inj hy).symm⟩

theorem maxPool2d_inv [LT α] [DecidableLT α] (x y : NDArray α) (negInf : α) (k s p d : Nat × Nat)
    (h : maxPool2dForward x negInf k s p d = some y) :
    ∃ n c H W lh lw, x.shape = [n, c, H, W] ∧ convOut H k.1 s.1 p.1 d.1 = some lh ∧
      convOut W k.2 s.2 p.2 d.2 = some lw ∧
      y = ofFn [n, c, lh, lw] (fun j =>
        match firstMax ((win2 H W k s p d (getI j 2) (getI j 3)).map (fun o =>
          o.map (fun (q : Nat × Nat) => x.get [getI j 0, getI j 1, q.1, q.2]))) with
        | some (v, _) => v | none => negInf) := by
  obtain ⟨⟨n, c, H, W, lh, lw⟩, hg, hy⟩ := Option.bind_eq_some_iff.1 h
  obtain ⟨h1, h2, h3⟩ := poolGeom2_inv x k s p d hg
  exact ⟨n, c, H, W, lh, lw, h1, h2, h3, (Option.some.inj hy).symm⟩

end PoolInv

section Nll
variable {α : Type} [Zero α]

theorem nll_inv [Neg α] (p y : NDArray α) (labels : List Nat) (h : nllForward p labels = some y) :
    ∃ n c, p.shape = [n, c] ∧ labels.length = n ∧ (∀ l ∈ labels, l < c) ∧
      y = ofFn [n] (fun i => - p.get [getI i 0, labels.getD (getI i 0) 0]) := by
  unfold nllForward at h
  split at h
  · rename_i n c hps
    split_ifs at h with hl
    exact ⟨n, c, hps, hl.1, by simpa using hl.2, (Option.some.inj h).symm⟩
  · cases h

theorem nll_some [Neg α] (p : NDArray α) (labels : List Nat) {n c : Nat} (hp : p.shape = [n, c])
    (hl : labels.length = n) (hall : ∀ l ∈ labels, l < c) :
    nllForward p labels = some (ofFn [n] fun i => - p.get [getI i 0, labels.getD (getI i 0) 0]) := by
  simp only [nllForward, hp]
  exact if_pos ⟨hl, List.all_eq_true.2 fun l h => decide_eq_true (hall l h)⟩

theorem nll_label_lt {labels : List Nat} {n c i : Nat} (hl : labels.length = n) (hall : ∀ l ∈ labels, l < c)
    (hi : i < n) : labels.getD i 0 < c := by
  rw [List.getD_eq_getElem _ _ (hl ▸ hi)]
  exact hall _ (List.getElem_mem _)

end Nll

/-! ### closed forms: finite sums, a window read being a guarded sum over the axis (2-d: over index pairs)

List sums and padded reads are converted here, in one pass from the root down and, where the right side is final,
on the left side only (why: at `placeWindows_eq` in ConvToolsLemmas).  The adjoint theorems then expand `dot` by `rw` and apply a core with every function argument
written out: `simp` with the `rfl` lemmas `getI_cons_*` below `Finset.sum_congr`, or `_` for such an argument,
makes the unifier reduce every `getI [..] k` at every level (up to a heartbeat timeout).
A lemma without `↓` fires after the subterms of its node are done (`Option.bind_some`: once the geometry reads `some _`). -/
section ClosedForms
open Finset
variable {R : Type} [CommRing R]

theorem conv1dForward_eq (x w : NDArray R) (s p d : Nat) {n c l co k lo : Nat}
    (hx : x.shape = [n, c, l]) (hw : w.shape = [co, c, k]) (hlo : convOut l k s p d = some lo) :
    conv1dForward x w none s p d = some (ofFn [n, co, lo] fun j =>
      ∑ cc ∈ range c, ∑ a ∈ range k, w.get [getI j 1, cc, a] *
        ∑ q ∈ range l, if winPos l s p d (getI j 2) a = some q then x.get [getI j 0, cc, q] else 0) := by
  rw [conv1d_some x w none s p d hx hw hlo fun _ h => nomatch h]
  conv_lhs => simp +singlePass only [↓sum_flatMap_range, ↓sum_map_range, ↓readPad1_eq_sum]

theorem conv1dBackward_eq (g x w : NDArray R) (hb : Bool) (s p d : Nat) {n c l co ci k n' co' lo : Nat}
    (hx : x.shape = [n, c, l]) (hw : w.shape = [co, ci, k]) (hg : g.shape = [n', co', lo]) :
    conv1dBackward g x w hb s p d = some
      (ofFn [n, c, l] fun i => ∑ o ∈ range co, ∑ t ∈ range lo, ∑ a ∈ range k,
        if winPos l s p d t a = some (getI i 2) then g.get [getI i 0, o, t] * w.get [o, getI i 1, a] else 0,
       ofFn [co, c, k] fun i => ∑ bn ∈ range n, ∑ t ∈ range lo, g.get [bn, getI i 0, t] *
        ∑ q ∈ range l, if winPos l s p d t (getI i 2) = some q then x.get [bn, getI i 1, q] else 0,
       if hb then some (ofFn [co] fun i => ∑ bn ∈ range n, ∑ t ∈ range lo, g.get [bn, getI i 0, t]) else none) := by
  conv_lhs => simp +singlePass only [↓conv1dBackward, hx, hw, hg, ↓sum_flatMap_range, ↓sum_map_range, ↓readPad1_eq_sum]

theorem conv2dForward_eq (x w : NDArray R) (s p d : Nat × Nat) {n c h wd co kh kw lh lw : Nat}
    (hx : x.shape = [n, c, h, wd]) (hw : w.shape = [co, c, kh, kw])
    (hlh : convOut h kh s.1 p.1 d.1 = some lh) (hlw : convOut wd kw s.2 p.2 d.2 = some lw) :
    conv2dForward x w none s p d = some (ofFn [n, co, lh, lw] fun j =>
      ∑ cc ∈ range c, ∑ a ∈ range kh ×ˢ range kw, w.get [getI j 1, cc, a.1, a.2] *
        ∑ q ∈ range h ×ˢ range wd,
          if reads2 h wd s p d (getI j 2, getI j 3) a q then x.get [getI j 0, cc, q.1, q.2] else 0) := by
  rw [conv2d_some x w none s p d hx hw hlh hlw fun _ h => nomatch h]
  simp +singlePass only [↓sum_flatMap_range, ↓sum_map_range, ↓readPad2_eq_sum, ↓Finset.sum_product]

theorem conv2dBackward_eq (g x w : NDArray R) (hb : Bool) (s p d : Nat × Nat)
    {n c h wd co ci kh kw n' co' lh lw : Nat}
    (hx : x.shape = [n, c, h, wd]) (hw : w.shape = [co, ci, kh, kw]) (hg : g.shape = [n', co', lh, lw]) :
    conv2dBackward g x w hb s p d = some
      (ofFn [n, c, h, wd] fun i => ∑ o ∈ range co, ∑ t ∈ range lh ×ˢ range lw, ∑ a ∈ range kh ×ˢ range kw,
        if reads2 h wd s p d t a (getI i 2, getI i 3)
        then g.get [getI i 0, o, t.1, t.2] * w.get [o, getI i 1, a.1, a.2] else 0,
       ofFn [co, c, kh, kw] fun i => ∑ bn ∈ range n, ∑ t ∈ range lh ×ˢ range lw, g.get [bn, getI i 0, t.1, t.2] *
        ∑ q ∈ range h ×ˢ range wd,
          if reads2 h wd s p d t (getI i 2, getI i 3) q then x.get [bn, getI i 1, q.1, q.2] else 0,
       if hb then some (ofFn [co] fun i => ∑ bn ∈ range n, ∑ t ∈ range lh ×ˢ range lw, g.get [bn, getI i 0, t.1, t.2])
       else none) := by
  simp +singlePass only [↓conv2dBackward, hx, hw, hg, ↓sum_flatMap_range, ↓sum_map_range, ↓readPad2_eq_sum,
    ↓Finset.sum_product]

variable {K : Type} [Field K]

theorem avgPool1dForward_eq (x : NDArray K) (k s p d : Nat) {n c l lo : Nat}
    (hx : x.shape = [n, c, l]) (hlo : convOut l k s p d = some lo) :
    avgPool1dForward x k s p d = some (ofFn [n, c, lo] fun j =>
      (∑ a ∈ range k, ∑ q ∈ range l,
        if winPos l s p d (getI j 2) a = some q then x.get [getI j 0, getI j 1, q] else 0) * (k : K)⁻¹) := by
  conv_lhs => simp +singlePass only [↓avgPool1dForward, ↓poolGeom1_eq x k s p d n c l lo hx hlo, ↓Option.bind_eq_bind,
    Option.bind_some, ↓Option.pure_def, ↓sum_map_range, ↓readPad1_eq_sum, ↓div_eq_mul_inv]

theorem avgPool1dBackward_eq (g x : NDArray K) (k s p d : Nat) {n c l lo : Nat}
    (hx : x.shape = [n, c, l]) (hlo : convOut l k s p d = some lo) :
    avgPool1dBackward g x k s p d = some (ofFn [n, c, l] fun i => ∑ t ∈ range lo, ∑ a ∈ range k,
      if winPos l s p d t a = some (getI i 2) then g.get [getI i 0, getI i 1, t] * (k : K)⁻¹ else 0) := by
  conv_lhs => simp +singlePass only [↓avgPool1dBackward, ↓poolGeom1_eq x k s p d n c l lo hx hlo, ↓Option.bind_eq_bind,
    Option.bind_some, ↓Option.pure_def, ↓sum_flatMap_range, ↓sum_map_range, ↓div_eq_mul_inv]

theorem avgPool2dForward_eq (x : NDArray K) (k s p d : Nat × Nat) {n c h w lh lw : Nat}
    (hx : x.shape = [n, c, h, w]) (hlh : convOut h k.1 s.1 p.1 d.1 = some lh)
    (hlw : convOut w k.2 s.2 p.2 d.2 = some lw) :
    avgPool2dForward x k s p d = some (ofFn [n, c, lh, lw] fun j =>
      (∑ a ∈ range k.1 ×ˢ range k.2, ∑ q ∈ range h ×ˢ range w,
        if reads2 h w s p d (getI j 2, getI j 3) a q then x.get [getI j 0, getI j 1, q.1, q.2] else 0) * ((k.1 * k.2 : Nat) : K)⁻¹) := by
  simp +singlePass only [↓avgPool2dForward, ↓poolGeom2_eq x k s p d n c h w lh lw hx hlh hlw, ↓Option.bind_eq_bind,
    Option.bind_some, ↓Option.pure_def, ↓sum_win2_read, ↓div_eq_mul_inv, ↓Finset.sum_product]

theorem avgPool2dBackward_eq (g x : NDArray K) (k s p d : Nat × Nat) {n c h w lh lw : Nat}
    (hx : x.shape = [n, c, h, w]) (hlh : convOut h k.1 s.1 p.1 d.1 = some lh)
    (hlw : convOut w k.2 s.2 p.2 d.2 = some lw) :
    avgPool2dBackward g x k s p d = some (ofFn [n, c, h, w] fun i =>
      ∑ t ∈ range lh ×ˢ range lw, ∑ a ∈ range k.1 ×ˢ range k.2,
        if reads2 h w s p d t a (getI i 2, getI i 3)
        then g.get [getI i 0, getI i 1, t.1, t.2] * ((k.1 * k.2 : Nat) : K)⁻¹ else 0) := by
  simp +singlePass only [↓avgPool2dBackward, ↓poolGeom2_eq x k s p d n c h w lh lw hx hlh hlw, ↓Option.bind_eq_bind,
    Option.bind_some, ↓Option.pure_def, ↓sum_flatMap_range, ↓sum_win2_ite, ↓div_eq_mul_inv, ↓Finset.sum_product]

end ClosedForms

/-! ### linear: through the adjoints of `matmul` and `swapaxes` -/
section Linear
variable {R : Type} [CommRing R]

/-- linear without bias, in `x` : `v ↦ v @ Wᵀ` -/
theorem linear_adj_x (x w y : NDArray R) (h : linearForward x w none = some y) :
    IsAdjoint (R := R) x.shape y.shape (fun v => linearForward v w none) (fun g => (linearBackward g x w none).map (·.1)) := by
  obtain ⟨wt, hwt, h'⟩ := Option.bind_eq_some_iff.1 h
  have hwtl := (swapaxes_wf w wt 0 1 hwt).2
  refine (matmul_adj_left x wt y h').congr ?_ ?_
  · intro v _ _
    simp [linearForward, hwt]
  · intro g hg hgs
    -- the weight-side adjoint tells that `matmulBackward` succeeds with a `gwt` of the rank of `w`, so the second `swapaxes` does
    obtain ⟨_, hB2, -, hb2s⟩ := (matmul_adj_right x wt y h').backward_some g hg hgs
    obtain ⟨⟨gx, gwt⟩, hmb, rfl⟩ := Option.map_eq_some_iff.1 hB2
    obtain ⟨gt, hgt⟩ := swapaxes_some w wt gwt 0 1 hwt ((congrArg List.length hb2s).trans hwtl)
    simp [linearBackward, hwt, hmb, hgt]

/-- linear without bias, in `W` : `V ↦ x @ Vᵀ` -/
theorem linear_adj_w (x w y : NDArray R) (h : linearForward x w none = some y) :
    IsAdjoint (R := R) w.shape y.shape (fun v => linearForward x v none) (fun g => (linearBackward g x w none).map (·.2.1)) := by
  obtain ⟨wt, hwt, h'⟩ := Option.bind_eq_some_iff.1 h
  have k1 : IsAdjoint (R := R) w.shape wt.shape (fun v => swapaxes v 0 1) (fun g => swapaxes g 0 1) :=
    transpose_adj w wt 0 1 hwt
  refine (k1.comp (matmul_adj_right x wt y h')).congr ?_ ?_
  · intro v _ _
    simp only [linearForward, Option.bind_eq_bind]
  · intro g hg hgs
    simp only [linearBackward, hwt, Option.bind_eq_bind, Option.bind_some]
    cases hmb : matmulBackward g x wt with
    | none => rfl
    | some pr =>
      obtain ⟨gx, gwt⟩ := pr
      simp only [Option.bind_some, Option.map_some]
      cases swapaxes gwt 0 1 <;> rfl

end Linear

end Proofs.Adjoint
