import SynapModel.Layers
import SynapModel.Generated.LayerLogic
import Mathlib.Algebra.Field.Basic
import Mathlib.Tactic.Ring
/-!
# The decision logic of `BatchNorm.forward`, as read from `layers.py` on this run, is the logic of the layer model

`SynapModel/Generated/LayerLogic.lean` is rewritten from `/repo/synapgrad/nn/layers.py` by `harness/layer_logic.py` on every run.
The layer model keeps `track_running_stats` as one flag; in the code the buffers `running_mean`, `running_var` and the counter
`num_batches_tracked` exist exactly when it is set (`Props.C13.init_owns_by_options`), which is how the atoms are instantiated.
-/
set_option linter.unusedSectionVars false
namespace Proofs.LayerLogicTie
open Synap.Layers Synap.Optim

variable {α : Type} [Field α] [HasSqrt α]

/-- counter and averaging factor are `avgFactor`; `bn_training` is the `useBatch` of `bnForward` (`training || !track`); each running
    buffer is passed iff `!training || track` (the model has no definition for this: it reads `rm` / `rv` when `!useBatch` and
    writes them when `training && track`) — for every option setting, mode and counter value -/
theorem bn_forward_logic_is_model (c : BNCfg α) (s : BNState α) :
    Synap.Gen.Layer.bn_forward_logic (momentum := c.momentum.getD 0) (self_momentum_is_None := c.momentum.isNone)
      (self_num_batches_tracked_is_None := !c.track) (self_running_mean_is_None := !c.track) (self_running_var_is_None := !c.track)
      (self_track_running_stats := c.track) (self_training := s.training) s.nbt
    = ((avgFactor c s).2, (avgFactor c s).1, s.training || !c.track, !s.training || c.track, !s.training || c.track) := by
  unfold avgFactor
  cases s.training <;> cases c.track <;> cases c.momentum <;> rfl

end Proofs.LayerLogicTie
