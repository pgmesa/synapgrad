import Proofs.VJPSoftmaxLemmas
import Proofs.AdjointNN
/-! # VJP of softmax, log_softmax, cross-entropy (C02), over ℝ — see `Proofs.VJPDefs` for the meaning of `IsVJPAt` -/
namespace Proofs.NL
open Synap Synap.NDArray Synap.Kernels Proofs.Core

/-- softmax along any axis: backward (which reads the saved output `s`) is the VJP at `a` -/
theorem softmax_vjp (a s : NDArray ℝ) (axis : Int) (ha : a.WF) (h : softmaxForward a axis = some s) :
    IsVJPAt (fun x => softmaxForward x axis) a a.shape (fun g => softmaxBackward g s axis) := by
  by_cases h0 : zeroDimAxis a.shape axis
  · -- the 0-d case (`dim` 0 / −1 on a 0-d operand): the forward is the constant `1`, the backward returns `s·(g − g·s) = 0`
    obtain rfl : ofFn [] (fun _ => (1 : ℝ)) = s := Option.some.inj ((sm_softmaxForward_zero a axis h0).symm.trans h)
    have hsh : a.shape = [] := h0.1
    exact IsVJPAt.of_entries ha (fun _ _ => 1) (fun _ _ => 0) (fun g _ => (1 : ℝ) * (g.get [] - g.get [] * 1))
      (fun v t _ _ => by rw [hsh]; exact sm_softmaxForward_zero (line a v t) axis h0)
      (fun g _ _ => by rw [softmax_zero_dim_backward g _ rfl axis h0.2, hsh]; rfl)
      (fun _ _ _ _ _ => hasDerivAt_const _ _)
      (fun v g _ _ _ _ => congrArg List.sum (List.map_congr_left fun i _ => by ring))
  obtain ⟨ax, hax, hn⟩ := sm_softmaxForward_some a s axis h0 h
  obtain rfl : ofFn a.shape (sm_sig a.get (a.shape.getD ax 0) ax) = s :=
    Option.some.inj ((sm_softmaxForward_eq a axis ax hax hn).symm.trans h)
  refine IsVJPAt.of_entries ha (fun z => sm_sig z (a.shape.getD ax 0) ax) _ _
    (fun v t _ _ => sm_softmaxForward_eq (line a v t) axis ax hax hn)
    (fun g _ _ => ?_)
    (fun v _ _ i _ => sm_hasDerivAt_sig a.get v.get _ ax i hn)
    (fun v g _ _ _ _ => sm_softmax_dot_exchange a.shape ax (Proofs.SpecOps.normAxis_lt hax) _ v.get g.get)
  simp only [softmaxBackward, ofFn_shape, if_neg h0, hax]
  refine congrArg some (Proofs.ConvTools.ofFn_congr _ _ _ fun i hi => ?_)
  rw [get_ofFn _ _ _ hi, sm_fibreSum_congr a.shape _
    (fun j => g.get j * sm_sig a.get (a.shape.getD ax 0) ax j) ax i hi (fun j hj => by rw [get_ofFn _ _ _ hj])]

/-- log_softmax along any axis: backward (which reads the saved output `ls`) is the VJP at `a` -/
theorem log_softmax_vjp (a ls : NDArray ℝ) (axis : Int) (ha : a.WF) (h : logSoftmaxForward a axis = some ls) :
    IsVJPAt (fun x => logSoftmaxForward x axis) a a.shape (fun g => logSoftmaxBackward g ls axis) := by
  by_cases h0 : zeroDimAxis a.shape axis
  · obtain rfl : ofFn [] (fun _ => (0 : ℝ)) = ls := Option.some.inj ((sm_logSoftmaxForward_zero a axis h0).symm.trans h)
    have hsh : a.shape = [] := h0.1
    exact IsVJPAt.of_entries ha (fun _ _ => 0) (fun _ _ => 0) (fun g _ => g.get [] - Real.exp 0 * g.get [])
      (fun v t _ _ => by rw [hsh]; exact sm_logSoftmaxForward_zero (line a v t) axis h0)
      (fun g _ _ => by rw [log_softmax_zero_dim_backward g _ rfl axis h0.2, hsh]; rfl)
      (fun _ _ _ _ _ => hasDerivAt_const _ _)
      (fun v g _ _ _ _ => congrArg List.sum (List.map_congr_left fun i _ => by rw [Real.exp_zero]; ring))
  obtain ⟨ax, hax, hn⟩ := sm_logSoftmaxForward_some a ls axis h0 h
  obtain rfl : ofFn a.shape (sm_ls a.get (a.shape.getD ax 0) ax) = ls :=
    Option.some.inj ((sm_logSoftmaxForward_eq a axis ax hax hn).symm.trans h)
  refine IsVJPAt.of_entries ha (fun z => sm_ls z (a.shape.getD ax 0) ax) _ _
    (fun v t _ _ => sm_logSoftmaxForward_eq (line a v t) axis ax hax hn)
    (fun g _ _ => ?_)
    (fun v _ _ i _ => sm_hasDerivAt_ls a.get v.get _ ax i hn)
    (fun v g _ _ _ _ => sm_logsoftmax_dot_exchange a.shape ax (Proofs.SpecOps.normAxis_lt hax) _ v.get g.get)
  simp only [logSoftmaxBackward, ofFn_shape, if_neg h0, hax]
  refine congrArg some (Proofs.ConvTools.ofFn_congr _ _ _ fun i hi => ?_)
  rw [get_ofFn _ _ _ hi]
  exact congrArg (fun e => g.get i - e * _) (sm_exp_ls a.get _ ax i hn)

/-! ### cross-entropy = `nll ∘ log_softmax` -/

theorem logSoftmaxForward_wf (a ls : NDArray ℝ) (axis : Int) (h : logSoftmaxForward a axis = some ls) :
    ls.WF ∧ ls.shape = a.shape := by
  by_cases h0 : zeroDimAxis a.shape axis
  · obtain rfl := Option.some.inj ((sm_logSoftmaxForward_zero a axis h0).symm.trans h)
    exact ⟨ofFn_wf _ _, h0.1.symm⟩
  · obtain ⟨ax, hax, hn⟩ := sm_logSoftmaxForward_some a ls axis h0 h
    obtain rfl := Option.some.inj ((sm_logSoftmaxForward_eq a axis ax hax hn).symm.trans h)
    exact ⟨ofFn_wf _ _, rfl⟩

theorem crossEntropyForward_eq {α : Type} [Zero α] [Add α] [Sub α] [Neg α] [LT α] [DecidableLT α] [Transc α]
    (x : NDArray α) (labels : List Nat) :
    crossEntropyForward x labels =
      if x.shape.length = 2 then (logSoftmaxForward x 1).bind (fun ls => nllForward ls labels) else none := by
  unfold crossEntropyForward
  simp

/-- the fused backward kernel returns what the chain rule through `nll` and `log_softmax` returns: along the class
    fibre the NLL gradient sums to `−g`, so `G − exp(ls)·ΣG = (softmax − onehot)·g` -/
theorem crossEntropyBackward_eq (x y ls g : NDArray ℝ) (labels : List Nat)
    (hls : logSoftmaxForward x 1 = some ls) (hnll : nllForward ls labels = some y) :
    crossEntropyBackward g x labels = logSoftmaxBackward (nllBackward g ls labels) ls 1 := by
  obtain ⟨ax, hax, hn⟩ := sm_logSoftmaxForward_some x ls 1 (sm_not_zeroDim_one _) hls
  obtain rfl : ofFn x.shape (sm_ls x.get (x.shape.getD ax 0) ax) = ls :=
    Option.some.inj ((sm_logSoftmaxForward_eq x 1 ax hax hn).symm.trans hls)
  obtain ⟨N, C, hxs, hl, hall, -⟩ := Proofs.Adjoint.nll_inv _ y labels hnll
  rw [ofFn_shape] at hxs
  obtain rfl : ax = 1 := by rw [hxs] at hax; exact Option.some.inj (hax.symm.trans (show normAxis 2 1 = some 1 by decide))
  simp only [crossEntropyBackward, sm_softmaxForward_eq x 1 1 hax hn, logSoftmaxBackward, ofFn_shape,
    if_neg (sm_not_zeroDim_one _), hax]
  refine congrArg some (Proofs.ConvTools.ofFn_congr _ _ _ fun i hi => ?_)
  obtain ⟨p, q, rfl⟩ := List.length_eq_two.1 ((validIdx_length _ _ hi).trans (congrArg List.length hxs))
  obtain ⟨hp, hq, -⟩ : validIdx [N, C] [p, q] := hxs ▸ hi
  have hlsN : (ofFn x.shape (sm_ls x.get (x.shape.getD 1 0) 1)).shape = [N, C] := hxs
  have hfib := sm_nll_fibre g _ labels N C hlsN p q hp (Proofs.Adjoint.nll_label_lt hl hall hp)
  rw [← hxs] at hfib
  rw [get_ofFn _ _ _ hi, get_ofFn _ _ _ hi, sm_nll_get g _ labels N C hlsN p q hp hq, hfib]
  show _ = _ - Real.exp _ * _
  rw [sm_exp_ls x.get _ 1 [p, q] hn]
  show (_ - if labels.getD p 0 = q then (1 : ℝ) else 0) * g.get [p] = _
  split_ifs <;> ring

end Proofs.NL
