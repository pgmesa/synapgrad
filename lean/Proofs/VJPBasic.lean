import Proofs.VJPDefs
import Proofs.AdjointGeneral
import Proofs.SumLemmas
/-!
# Working with `IsVJPAt`

Every forward kernel of the nonlinear nn ops returns an index function `φ` of the entries of its operand, and along a
line `a + t·v` every entry of `φ` is a differentiable scalar function of `t`.  `IsVJPAt.of_entries` reduces "`B` is the
VJP" for such a kernel to the entrywise derivatives and one rearrangement of a finite sum; `IsVJPAt.comp_adjoint` is the
chain rule for a linear op after a nonlinear one.
-/
namespace Proofs.NL
open Synap Synap.NDArray Proofs.Core Proofs.Calc Proofs.Adjoint

theorem line_shape (a v : NDArray ℝ) (t : ℝ) : (line a v t).shape = a.shape := rfl

theorem line_wf (a v : NDArray ℝ) (t : ℝ) (ha : a.WF) (hv : v.WF) (hs : v.shape = a.shape) :
    (line a v t).WF := zipSame_wf _ _ _ ha hv hs.symm

/-- at every index, valid or not: out of range both sides read `0` -/
theorem line_get_fun (a v : NDArray ℝ) (t : ℝ) (ha : a.WF) (hv : v.WF) (hs : v.shape = a.shape) :
    (line a v t).get = fun i => a.get i + t * v.get i := by
  funext i
  have hl : a.data.length = v.data.length := by rw [ha, hv, hs]
  simp only [line, zipSame, NDArray.get, hs, List.getD_eq_getElem?_getD, List.getElem?_zipWith]
  rcases Nat.lt_or_ge (ravel a.shape i) a.data.length with h | h
  · rw [List.getElem?_eq_getElem h, List.getElem?_eq_getElem (hl ▸ h)]; rfl
  · rw [List.getElem?_eq_none h, List.getElem?_eq_none (hl ▸ h)]
    simp

theorem hasDerivAt_line (c w : ℝ) : HasDerivAt (fun t : ℝ => c + t * w) w 0 :=
  (((hasDerivAt_id' (0 : ℝ)).mul_const w).const_add c).congr_deriv (one_mul w)

theorem hasDerivAt_list_sum {ι : Type} (l : List ι) (f : ι → ℝ → ℝ) (f' : ι → ℝ) (x : ℝ)
    (h : ∀ i ∈ l, HasDerivAt (f i) (f' i) x) :
    HasDerivAt (fun t => (l.map (fun i => f i t)).sum) (l.map f').sum x := by
  induction l with
  | nil => simpa using hasDerivAt_const x (0 : ℝ)
  | cons a l ih =>
    exact (h a List.mem_cons_self).fun_add (ih (fun i hi => h i (List.mem_cons_of_mem _ hi)))

theorem IsVJPAt.of_entries {F B : NDArray ℝ → Option (NDArray ℝ)} {a : NDArray ℝ} {sy : Shape} (ha : a.WF)
    (φ : (Idx → ℝ) → Idx → ℝ) (d : NDArray ℝ → Idx → ℝ) (b : NDArray ℝ → Idx → ℝ)
    (hF : ∀ v t, v.WF → v.shape = a.shape → F (line a v t) = some (ofFn sy (φ (line a v t).get)))
    (hB : ∀ g, g.WF → g.shape = sy → B g = some (ofFn a.shape (b g)))
    (hd : ∀ v, v.WF → v.shape = a.shape → ∀ i, validIdx sy i →
      HasDerivAt (fun t => φ (fun j => a.get j + t * v.get j) i) (d v i) 0)
    (hsum : ∀ v g, v.WF → v.shape = a.shape → g.WF → g.shape = sy →
      ((allIdx a.shape).map (fun i => v.get i * b g i)).sum = ((allIdx sy).map (fun i => d v i * g.get i)).sum) :
    IsVJPAt F a sy B := by
  intro v g hv hvs hg hgs
  refine ⟨fun t => ⟨_, hF v t hv hvs, ofFn_wf _ _, rfl⟩, _, hB g hg hgs, ofFn_wf _ _, rfl, ?_⟩
  have hfun : (fun t : ℝ => ((F (line a v t)).map (fun y => dot y g)).getD 0)
      = fun t => ((allIdx sy).map (fun i => φ (fun j => a.get j + t * v.get j) i * g.get i)).sum :=
    funext fun t => by
      rw [hF v t hv hvs, Option.map_some, Option.getD_some, dot_ofFn, line_get_fun a v t ha hv hvs]
  rw [hfun, Proofs.ConvTools.dot_ofFn_right v _ _ hvs, hsum v g hv hvs hg hgs]
  exact hasDerivAt_list_sum _ _ _ 0 fun i hi => (hd v hv hvs i ((mem_allIdx _ i).1 hi)).mul_const _

theorem IsVJPAt.congr {F F' B B' : NDArray ℝ → Option (NDArray ℝ)} {a : NDArray ℝ} {sy : Shape}
    (h : IsVJPAt F a sy B) (hF : ∀ z : NDArray ℝ, z.shape = a.shape → F z = F' z)
    (hB : ∀ g : NDArray ℝ, g.WF → g.shape = sy → B g = B' g) : IsVJPAt F' a sy B' := by
  intro v g hv hvs hg hgs
  have e : ∀ t, F' (line a v t) = F (line a v t) := fun t => (hF (line a v t) rfl).symm
  simp only [e, ← hB g hg hgs]
  exact h v g hv hvs hg hgs

theorem IsVJPAt.comp_adjoint {F B L BL : NDArray ℝ → Option (NDArray ℝ)} {a : NDArray ℝ} {sm sy : Shape}
    (hF : IsVJPAt F a sm B) (hL : IsAdjoint sm sy L BL) :
    IsVJPAt (fun x => (F x).bind L) a sy (fun g => (BL g).bind B) := by
  intro v g hv hvs hg hgs
  obtain ⟨c, hc, hcw, hcs⟩ := hL.backward_some g hg hgs
  obtain ⟨htot, b, hb, hbw, hbs, hd⟩ := hF v c hv hvs hcw hcs
  refine ⟨fun t => ?_, b, by simp [hc, hb], hbw, hbs, ?_⟩
  · obtain ⟨y, hy, hyw, hys⟩ := htot t
    obtain ⟨z, _, hz, _, hzw, hzs, _⟩ := hL y g hyw hys hg hgs
    exact ⟨z, by simp [hy, hz], hzw, hzs⟩
  · have hfun : (fun t : ℝ => (((F (line a v t)).bind L).map (fun y => dot y g)).getD 0)
        = fun t : ℝ => ((F (line a v t)).map (fun y => dot y c)).getD 0 := by
      funext t
      obtain ⟨y, hy, hyw, hys⟩ := htot t
      obtain ⟨z, c', hz, hc', _, _, _, _, hdot⟩ := hL y g hyw hys hg hgs
      rw [hc] at hc'; cases hc'
      simp [hy, hz, hdot]
    rw [hfun]
    exact hd

end Proofs.NL
