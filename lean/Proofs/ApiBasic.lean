import SynapModel.Api
/-!
# What the API transitions do to the store, exactly

`mkTensor` in closed form (the node it appends is `mkNode`), and `Api.backward` as a change of the graph component alone.
-/
namespace Proofs.Api
open Synap Synap.NDArray Synap.Api Synap.Engine

theorem backward_fst {α : Type} [Add α] (st : TState α) (root : Nat) (g : NDArray α) :
    ∃ g', (Api.backward st root g).1 = { st with g := g' } := by
  unfold Api.backward
  split
  · split
    · exact ⟨_, rfl⟩
    · dsimp only
      split
      · exact ⟨_, rfl⟩
      · split <;> exact ⟨_, rfl⟩
  · exact ⟨_, rfl⟩

variable {α : Type} [Zero α]

/-- the node `mkTensor` creates -/
def mkNode (st : TState α) (v : NDArray α) (rg : Bool) (ch : List Nat)
    (bk : Option (NDArray α → Option (List (Option (NDArray α))))) : Node (NDArray α) :=
  { children := if (rg && st.modes.grad) then ch else [], reqGrad := rg && st.modes.grad,
    back := if (rg && st.modes.grad) then bk else none, retain := false, grad := none, zero := zeros v.shape }

theorem mkTensor_eq (st : TState α) (v : NDArray α) (dt : DType) (rg : Bool) (ch : List Nat)
    (bk : Option (NDArray α → Option (List (Option (NDArray α))))) :
    mkTensor st v dt rg ch bk =
      if (rg && st.modes.grad && !dt.isFloat) = true then none
      else some ({ st with g := st.g ++ [mkNode st v rg ch bk], vals := st.vals ++ [v],
                           dtypes := st.dtypes ++ [dt] }, st.g.length) := rfl

theorem mkTensor_inv {st st' : TState α} {v : NDArray α} {dt : DType} {rg : Bool} {ch : List Nat}
    {bk : Option (NDArray α → Option (List (Option (NDArray α))))} {k : Nat}
    (h : mkTensor st v dt rg ch bk = some (st', k)) :
    (rg && st.modes.grad && !dt.isFloat) = false ∧ k = st.g.length ∧
    st' = { st with g := st.g ++ [mkNode st v rg ch bk], vals := st.vals ++ [v], dtypes := st.dtypes ++ [dt] } := by
  rw [mkTensor_eq] at h
  obtain ⟨hc, h⟩ := Option.ite_none_left_eq_some.mp h
  cases h
  exact ⟨Bool.eq_false_iff.mpr hc, rfl, rfl⟩

theorem mkTensor_get {st st' : TState α} {v : NDArray α} {dt : DType} {rg : Bool} {ch : List Nat}
    {bk : Option (NDArray α → Option (List (Option (NDArray α))))} {k : Nat}
    (h : mkTensor st v dt rg ch bk = some (st', k)) : st'.g[k]? = some (mkNode st v rg ch bk) := by
  obtain ⟨_, rfl, rfl⟩ := mkTensor_inv h
  simp

end Proofs.Api
