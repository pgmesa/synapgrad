import Proofs.AdjointGeneral
import Mathlib.Data.List.GetD
/-!
# Axis permutations: `transposeP` by a permutation and by its inverse are adjoint

`PermPair n p q` : `p`, `q` are lists of length `n` with entries `< n` such that reading a list through
one and then through the other gives it back.  `swapPerm n a b` is paired with itself,
`moveaxisPerm n s d` with `moveaxisPerm n d s`: `np.moveaxis` takes the entry at `s` out and puts it
back at `d` (`permute_moveaxisPerm`), and `List.eraseIdx` / `List.insertIdx` undo one another.
-/
namespace Proofs.Adjoint
open Synap Synap.Np Proofs.Core

theorem length_permute (l p : List Nat) : (permute l p).length = p.length :=
  List.length_map _

theorem getD_map_lt (f : Nat → Nat) (p : List Nat) (k : Nat) (hk : k < p.length) :
    (p.map f).getD k 0 = f (p.getD k 0) := by
  rw [List.getD_eq_getElem _ _ (by rwa [List.length_map]), List.getElem_map, List.getD_eq_getElem _ _ hk]

theorem getD_permute (l p : List Nat) (k : Nat) (hk : k < p.length) :
    (permute l p).getD k 0 = l.getD (p.getD k 0) 0 :=
  getD_map_lt _ p k hk

theorem permute_range (l : List Nat) : permute l (List.range l.length) = l := by
  apply List.ext_getElem (by rw [length_permute, List.length_range])
  intro i _ h2
  simp only [permute, List.getElem_map, List.getElem_range, List.getD_eq_getElem _ _ h2]

theorem permute_permute_eq (l p q : List Nat) (hp : ∀ k ∈ p, k < q.length) :
    permute (permute l q) p = permute l (permute q p) := by
  unfold permute
  rw [List.map_map]
  exact List.map_congr_left fun k hk => getD_map_lt _ q k (hp k hk)

/-- `p` and `q` are mutually inverse permutations of `[0, n)` -/
structure PermPair (n : Nat) (p q : List Nat) : Prop where
  length_left : p.length = n
  length_right : q.length = n
  lt_left : ∀ k ∈ p, k < n
  lt_right : ∀ k ∈ q, k < n
  right_left : permute q p = List.range n
  left_right : permute p q = List.range n

theorem PermPair.symm {n : Nat} {p q : List Nat} (h : PermPair n p q) : PermPair n q p :=
  ⟨h.length_right, h.length_left, h.lt_right, h.lt_left, h.left_right, h.right_left⟩

theorem permute_permute {n : Nat} {p q : List Nat} (h : PermPair n p q) (l : List Nat)
    (hl : l.length = n) : permute (permute l q) p = l := by
  rw [permute_permute_eq l p q (by rw [h.length_right]; exact h.lt_left), h.right_left, ← hl, permute_range]

theorem PermPair.invPerm_eq {n : Nat} {p q : List Nat} (h : PermPair n p q) : invPerm p = q := by
  have hnd : p.Nodup := List.Nodup.of_map _ (h.right_left ▸ List.nodup_range (n := n))
  unfold invPerm
  rw [h.length_left, ← h.left_right, permute, List.map_map]
  conv_rhs => rw [← List.map_id q]
  apply List.map_congr_left
  intro k hk
  have hk' : k < p.length := by rw [h.length_left]; exact h.lt_right k hk
  show p.idxOf (p.getD k 0) = id k
  rw [List.getD_eq_getElem _ _ hk']
  exact hnd.idxOf_getElem k hk'

theorem validIdx_permute (s : Shape) (i : Idx) (p : List Nat) (hp : ∀ k ∈ p, k < s.length)
    (hi : validIdx s i) : validIdx (permute s p) (permute i p) := by
  rw [validIdx_iff_getD] at hi ⊢
  refine ⟨by rw [length_permute, length_permute], fun k hk => ?_⟩
  rw [length_permute] at hk
  rw [getD_permute _ _ _ hk, getD_permute _ _ _ hk]
  exact hi.2 _ (hp _ (by rw [List.getD_eq_getElem _ _ hk]; exact List.getElem_mem hk))

theorem get_transposeP {α : Type} [Zero α] (x : NDArray α) (p : List Nat) (j : Idx)
    (hj : validIdx (permute x.shape p) j) : (transposeP x p).get j = x.get (permute j (invPerm p)) :=
  get_gather _ _ _ _ hj

theorem transposeP_adj {R : Type} [CommSemiring R] {n : Nat} {p q : List Nat} (h : PermPair n p q) (s : Shape)
    (hs : s.length = n) :
    IsAdjoint (R := R) s (permute s p) (fun v => some (transposeP v p)) (fun g => some (transposeP g q)) := by
  have hsp : (permute s p).length = n := by rw [length_permute, h.length_left]
  apply isAdjoint_of_gather_bij s (permute s p) (fun j => permute j q) (fun i => permute i p)
  · intro j hj
    have := validIdx_permute _ j q (by rw [hsp]; exact h.lt_right) hj
    rwa [permute_permute h.symm s hs] at this
  · intro i hi; exact validIdx_permute s i p (by rw [hs]; exact h.lt_left) hi
  · intro j hj
    exact permute_permute h j (by rw [validIdx_length _ _ hj, hsp])
  · intro i hi
    exact permute_permute h.symm i (by rw [validIdx_length _ _ hi, hs])
  · intro v _ hvs
    simp only [transposeP, h.invPerm_eq, hvs]
  · intro g _ hgs
    simp only [transposeP, h.symm.invPerm_eq, hgs, permute_permute h.symm s hs]

theorem permute_map_range (n : Nat) (σ τ : Nat → Nat) (hτ : ∀ k, k < n → τ k < n) :
    permute ((List.range n).map σ) ((List.range n).map τ) = (List.range n).map fun k => σ (τ k) := by
  unfold permute
  rw [List.map_map]
  apply List.map_congr_left
  intro k hk
  have := hτ k (List.mem_range.1 hk)
  simp [this]

theorem length_swapPerm (n a b : Nat) : (swapPerm n a b).length = n := by
  rw [swapPerm, List.length_map, List.length_range]

theorem swapPerm_pair (n a b : Nat) (ha : a < n) (hb : b < n) :
    PermPair n (swapPerm n a b) (swapPerm n a b) := by
  have hl := length_swapPerm n a b
  have hlt : ∀ k ∈ swapPerm n a b, k < n := by
    intro k hk
    obtain ⟨j, hj, rfl⟩ := List.mem_map.1 hk
    rw [List.mem_range] at hj
    split_ifs <;> assumption
  have inv : permute (swapPerm n a b) (swapPerm n a b) = List.range n := by
    unfold swapPerm at hlt ⊢
    rw [permute_map_range n _ _ fun k hk => hlt _ (List.mem_map_of_mem (List.mem_range.2 hk))]
    conv_rhs => rw [← List.map_id (List.range n)]
    -- exchanging `a` and `b` twice gives every `k` back
    refine List.map_congr_left fun k _ => ?_
    by_cases h3 : k = a
    · subst h3
      by_cases h : b = k <;> simp only [h, ↓reduceIte, id]
    · by_cases h4 : k = b
      · subst h4
        simp only [h3, ↓reduceIte, id]
      · simp only [h3, h4, ↓reduceIte, id]
  exact ⟨hl, hl, hlt, hlt, inv, inv⟩

theorem filter_ne_range_eq_eraseIdx (n s : Nat) (hs : s < n) :
    (List.range n).filter (fun x => decide (x ≠ s)) = (List.range n).eraseIdx s := by
  have h := List.nodup_range.erase_getElem (l := List.range n) (i := s) (by simpa using hs)
  rw [List.getElem_range, List.nodup_range.erase_eq_filter] at h
  rw [← h]
  exact List.filter_congr fun x _ => by simp [bne, beq_eq_decide]

theorem permute_moveaxisPerm (l : List Nat) (s d : Nat) (hs : s < l.length) :
    permute l (moveaxisPerm l.length s d) = insertAt (l.eraseIdx s) d (l.getD s 0) := by
  have hr := permute_range l
  unfold permute moveaxisPerm insertAt at *
  rw [List.map_append, List.map_cons, List.map_take, List.map_drop, filter_ne_range_eq_eraseIdx _ _ hs,
    ← List.eraseIdx_map, hr]

theorem le_length_eraseIdx_range {d n : Nat} (hd : d < n) (s : Nat) : d ≤ ((List.range n).eraseIdx s).length := by
  have := List.le_length_eraseIdx (List.range n) s
  rw [List.length_range] at this
  exact (Nat.le_sub_one_of_lt hd).trans this

theorem moveaxisPerm_eq (n s d : Nat) (hs : s < n) (hd : d < n) :
    moveaxisPerm n s d = ((List.range n).eraseIdx s).insertIdx d s := by
  unfold moveaxisPerm
  rw [filter_ne_range_eq_eraseIdx _ _ hs, insertAt_eq_insertIdx _ _ _ (le_length_eraseIdx_range hd s)]

theorem moveaxisPerm_length (n s d : Nat) (hs : s < n) (hd : d < n) : (moveaxisPerm n s d).length = n := by
  rw [moveaxisPerm_eq n s d hs hd, List.length_insertIdx_of_le_length (le_length_eraseIdx_range hd s),
    List.length_eraseIdx_of_lt (by rwa [List.length_range]), List.length_range,
    Nat.sub_add_cancel (Nat.zero_lt_of_lt hs)]

theorem moveaxisPerm_lt (n s d : Nat) (hs : s < n) (hd : d < n) : ∀ k ∈ moveaxisPerm n s d, k < n := by
  intro k hk
  rw [moveaxisPerm_eq n s d hs hd] at hk
  rcases List.eq_or_mem_of_mem_insertIdx hk with rfl | hk
  · exact hs
  · exact List.mem_range.1 (List.mem_of_mem_eraseIdx hk)

theorem permute_moveaxisPerm_inv (n s d : Nat) (hs : s < n) (hd : d < n) :
    permute (moveaxisPerm n d s) (moveaxisPerm n s d) = List.range n := by
  have hl := moveaxisPerm_length n d s hd hs
  have := permute_moveaxisPerm (moveaxisPerm n d s) s d (hl.symm ▸ hs)
  rw [hl] at this
  rw [this, moveaxisPerm_eq n d s hd hs, List.eraseIdx_insertIdx_self,
    insertAt_eq_insertIdx _ _ _ (le_length_eraseIdx_range hd d), List.getD_eq_getElem?_getD,
    List.getElem?_insertIdx_self, if_pos (le_length_eraseIdx_range hs d)]
  have := List.insertIdx_eraseIdx_getElem (l := List.range n) (n := d) (by simpa using hd)
  rwa [List.getElem_range] at this

theorem moveaxisPerm_pair (n s d : Nat) (hs : s < n) (hd : d < n) :
    PermPair n (moveaxisPerm n s d) (moveaxisPerm n d s) :=
  ⟨moveaxisPerm_length n s d hs hd, moveaxisPerm_length n d s hd hs, moveaxisPerm_lt n s d hs hd,
    moveaxisPerm_lt n d s hd hs, permute_moveaxisPerm_inv n s d hs hd, permute_moveaxisPerm_inv n d s hd hs⟩

end Proofs.Adjoint

namespace Proofs.SpecOps
open Synap Proofs.Adjoint

def swapAt (l : List Nat) (a b : Nat) : List Nat := (l.set a (l.getD b 0)).set b (l.getD a 0)

theorem permute_swapPerm (l : List Nat) (a b : Nat) :
    permute l (swapPerm l.length a b) = swapAt l a b := by
  have hlen : (swapAt l a b).length = l.length := by rw [swapAt, List.length_set, List.length_set]
  apply List.ext_getElem (by rw [hlen, length_permute, length_swapPerm])
  intro k _ h2
  have hk : k < l.length := hlen ▸ h2
  simp only [permute, swapPerm, swapAt, List.getElem_map, List.getElem_range, List.getElem_set]
  -- entry `k` reads `l` at the exchanged position; `set` tests `b` first, `swapPerm` tests `a` first
  by_cases h3 : k = a
  · subst h3
    by_cases h : b = k <;> simp only [h, ↓reduceIte]
  · by_cases h4 : k = b
    · subst h4
      simp only [h3, ↓reduceIte]
    · simp only [h3, h4, Ne.symm h3, Ne.symm h4, ↓reduceIte, List.getD_eq_getElem _ _ hk]

theorem swapAt_self (l : List Nat) (a : Nat) : swapAt l a a = l := by
  unfold swapAt
  rw [List.set_set]
  by_cases h : a < l.length
  · rw [List.getD_eq_getElem _ _ h, List.set_getElem_self]
  · rw [List.set_eq_of_length_le (Nat.not_lt.1 h)]

theorem swapAt_last (p : List Nat) (x y : Nat) : swapAt (p ++ [x, y]) p.length (p.length + 1) = p ++ [y, x] := by
  induction p with
  | nil => rfl
  | cons c p ih => exact congrArg (c :: ·) ih

end Proofs.SpecOps

namespace Proofs.Adjoint
open Synap

theorem normAxis_natCast (n k : Nat) (h : k < n) : normAxis n (k : Int) = some k := by
  unfold normAxis
  rw [if_pos ⟨by omega, by omega⟩]
  simp

/-- taking out one of two neighbours and putting it back on the other side of its neighbour exchanges the two -/
theorem move_adjacent {α : Type} (p q : List α) (x y : α) :
    ((p ++ x :: y :: q).eraseIdx p.length).insertIdx (p.length + 1) x = p ++ y :: x :: q ∧
    ((p ++ x :: y :: q).eraseIdx (p.length + 1)).insertIdx p.length y = p ++ y :: x :: q := by
  induction p with
  | nil => exact ⟨rfl, rfl⟩
  | cons z p ih =>
    simp only [List.cons_append, List.length_cons, List.eraseIdx_cons_succ, List.insertIdx_succ_cons]
    exact ⟨congrArg _ ih.1, congrArg _ ih.2⟩

theorem moveaxisPerm_adjacent (n a : Nat) (ha : a + 1 < n) :
    moveaxisPerm n a (a + 1) = swapPerm n a (a + 1) ∧ moveaxisPerm n (a + 1) a = swapPerm n a (a + 1) := by
  rw [moveaxisPerm_eq n a (a + 1) (Nat.lt_of_succ_lt ha) ha, moveaxisPerm_eq n (a + 1) a ha (Nat.lt_of_succ_lt ha)]
  -- `range n = [0, …, a−1] ++ a :: a+1 :: [a+2, …]`; `swapPerm` exchanges the two middle entries
  obtain ⟨m, rfl⟩ : ∃ m, n = a + 2 + m := Nat.exists_eq_add_of_le ha
  have hr : List.range (a + 2 + m) = List.range a ++ a :: (a + 1) :: List.range' (a + 2) m := by
    rw [List.range_eq_range', ← List.range'_append_1, ← List.range_eq_range', Nat.zero_add, List.range_succ,
      List.range_succ, List.append_assoc, List.append_assoc]
    rfl
  have hs : swapPerm (a + 2 + m) a (a + 1) = List.range a ++ (a + 1) :: a :: List.range' (a + 2) m := by
    unfold swapPerm
    rw [hr, List.map_append, List.map_cons, List.map_cons, if_pos rfl, if_neg a.succ_ne_self, if_pos rfl]
    refine congrArg₂ _ ?_ (congrArg _ (congrArg _ ?_))
    · exact (List.map_congr_left fun k hk => (if_neg (List.mem_range.1 hk).ne).trans
        (if_neg (Nat.lt_succ_of_lt (List.mem_range.1 hk)).ne)).trans (List.map_id' _)
    · exact (List.map_congr_left fun k hk => (if_neg (Nat.lt_of_succ_lt (List.mem_range'_1.1 hk).1).ne').trans
        (if_neg (Nat.lt_of_succ_le (List.mem_range'_1.1 hk).1).ne')).trans (List.map_id' _)
  have hm := move_adjacent (List.range a) (List.range' (a + 2) m) a (a + 1)
  rw [List.length_range, ← hr] at hm
  rw [hs]
  exact hm

end Proofs.Adjoint
