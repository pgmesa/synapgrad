import SynapModel.OptimStore
/-!
# The heap of `Synap.OptimStore`: allocation, in-place writes, the extension order on heaps,
and what each statement form does to the heap and to one element of a buffer
-/
namespace Proofs.OptimStore
open Synap.OptimStore

variable {α : Type}

@[simp] theorem alloc_length (h : Heap α) (a : List α) : (alloc h a).1.length = h.length + 1 :=
  List.length_append

@[simp] theorem alloc_snd (h : Heap α) (a : List α) : (alloc h a).2 = h.length := rfl

theorem rdBuf_alloc_lt (h : Heap α) (a : List α) {b : BufId} (hb : b < h.length) :
    rdBuf (alloc h a).1 b = rdBuf h b :=
  congrArg (Option.getD · []) (List.getElem?_append_left hb)

theorem rdBuf_alloc_new (h : Heap α) (a : List α) : rdBuf (alloc h a).1 h.length = a :=
  congrArg (Option.getD · []) (List.getElem?_concat_length (l := h))

@[simp] theorem wrBuf_length (h : Heap α) (d : BufId) (a : List α) : (wrBuf h d a).length = h.length :=
  List.length_set

theorem rdBuf_wrBuf_ne (h : Heap α) (a : List α) {d b : BufId} (hne : d ≠ b) :
    rdBuf (wrBuf h d a) b = rdBuf h b :=
  congrArg (Option.getD · []) (List.getElem?_set_ne (l := h) hne)

theorem rdBuf_wrBuf_eq (h : Heap α) (a : List α) {d : BufId} (hd : d < h.length) :
    rdBuf (wrBuf h d a) d = a :=
  congrArg (Option.getD · []) (List.getElem?_set_self hd)

/-- `child.zero_()` in `Tensor.backward` followed by the closure's `x._grad += g` is one allocation -/
theorem wrBuf_alloc_new (h : Heap α) (a b : List α) : wrBuf (alloc h a).1 h.length b = (alloc h b).1 := by
  simp [wrBuf, alloc]

theorem alloc_fresh (h : Heap α) (a : List α) :
    h.length ≤ (alloc h a).2 ∧ (alloc h a).2 < (alloc h a).1.length := ⟨Nat.le_refl _, by simp⟩

/-- element `k` of buffer `b` -/
def val (h : Heap α) (b : BufId) (k : Nat) : Option α := (rdBuf h b)[k]?

/-- a buffer that has an element exists: no statement about values needs a bound beside it -/
theorem val_lt {h : Heap α} {x k : Nat} {v : α} (hv : val h x k = some v) : x < h.length := by
  apply Nat.lt_of_not_le; intro hle
  rw [val, rdBuf, List.getElem?_eq_none hle] at hv; cases hv

theorem val_alloc_new (h : Heap α) (a : List α) (k : Nat) : val (alloc h a).1 h.length k = a[k]? := by
  unfold val; rw [rdBuf_alloc_new]

/-- the extension order: nothing freed, no buffer made longer, only buffers in `W` overwritten -/
def Ext (W : BufId → Prop) (h h' : Heap α) : Prop :=
  h.length ≤ h'.length ∧ ∀ x, x < h.length →
    (rdBuf h' x).length ≤ (rdBuf h x).length ∧ (¬ W x → rdBuf h' x = rdBuf h x)

theorem Ext.refl (W : BufId → Prop) (h : Heap α) : Ext W h h :=
  ⟨Nat.le_refl _, fun _ _ => ⟨Nat.le_refl _, fun _ => rfl⟩⟩

theorem Ext.trans {W : BufId → Prop} {h₁ h₂ h₃ : Heap α} (a : Ext W h₁ h₂) (b : Ext W h₂ h₃) :
    Ext W h₁ h₃ :=
  ⟨Nat.le_trans a.1 b.1, fun x hx =>
    have hx' := Nat.lt_of_lt_of_le hx a.1
    ⟨Nat.le_trans (b.2 x hx').1 (a.2 x hx).1, fun hw => ((b.2 x hx').2 hw).trans ((a.2 x hx).2 hw)⟩⟩

theorem Ext.mono {W W' : BufId → Prop} {h h' : Heap α} (hW : ∀ x, W x → W' x) (a : Ext W h h') :
    Ext W' h h' := ⟨a.1, fun x hx => ⟨(a.2 x hx).1, fun hw => (a.2 x hx).2 fun w => hw (hW x w)⟩⟩

theorem Ext.weaken {W : BufId → Prop} {h h' : Heap α} (a : Ext (fun _ => False) h h') : Ext W h h' :=
  a.mono fun _ => False.elim

theorem Ext.rd_eq {W : BufId → Prop} {h h' : Heap α} (a : Ext W h h') {x : BufId} (hx : x < h.length)
    (hw : ¬ W x) : rdBuf h' x = rdBuf h x := (a.2 x hx).2 hw

theorem Ext.val_kept {W : BufId → Prop} {h h' : Heap α} (a : Ext W h h') {x k : Nat} {v : α}
    (hw : ¬ W x) (hv : val h x k = some v) : val h' x k = some v := by
  unfold val; rw [a.rd_eq (val_lt hv) hw]; exact hv

theorem ext_alloc (h : Heap α) (a : List α) : Ext (fun _ => False) h (alloc h a).1 :=
  ⟨by simp, fun _ hx => ⟨Nat.le_of_eq (congrArg _ (rdBuf_alloc_lt h a hx)), fun _ => rdBuf_alloc_lt h a hx⟩⟩

theorem ext_wrBuf (h : Heap α) (d : BufId) (a : List α) (ha : a.length ≤ (rdBuf h d).length) :
    Ext (· = d) h (wrBuf h d a) := by
  refine ⟨by simp, fun x hx => ⟨?_, fun hw => rdBuf_wrBuf_ne h a fun e => hw e.symm⟩⟩
  by_cases e : d = x
  · subst e; rw [rdBuf_wrBuf_eq _ _ hx]; exact ha
  · rw [rdBuf_wrBuf_ne _ _ e]; exact Nat.le_refl _

theorem allocMap_snd (h : Heap α) (f : α → α) (a : BufId) : (allocMap h f a).2 = h.length := rfl
theorem allocZip_snd (h : Heap α) (f : α → α → α) (a b : BufId) :
    (allocZip h f a b).2 = h.length := rfl
theorem allocMap_length (h : Heap α) (f : α → α) (a : BufId) :
    (allocMap h f a).1.length = h.length + 1 := alloc_length _ _
theorem allocZip_length (h : Heap α) (f : α → α → α) (a b : BufId) :
    (allocZip h f a b).1.length = h.length + 1 := alloc_length _ _
theorem writeMap_length (h : Heap α) (d : BufId) (f : α → α) :
    (writeMap h d f).length = h.length := wrBuf_length _ _ _
theorem writeZip_length (h : Heap α) (d : BufId) (f : α → α → α) (b : BufId) :
    (writeZip h d f b).length = h.length := wrBuf_length _ _ _
theorem writeZipLit_length (h : Heap α) (d : BufId) (f : α → α → α) (g : List α) :
    (writeZipLit h d f g).length = h.length := wrBuf_length _ _ _

theorem ext_allocMap (h : Heap α) (f : α → α) (a : BufId) : Ext (fun _ => False) h (allocMap h f a).1 :=
  ext_alloc _ _
theorem ext_allocZip (h : Heap α) (f : α → α → α) (a b : BufId) :
    Ext (fun _ => False) h (allocZip h f a b).1 := ext_alloc _ _
theorem ext_writeMap (h : Heap α) (d : BufId) (f : α → α) : Ext (· = d) h (writeMap h d f) :=
  ext_wrBuf _ _ _ (by simp)
theorem ext_writeZipLit (h : Heap α) (d : BufId) (f : α → α → α) (g : List α) :
    Ext (· = d) h (writeZipLit h d f g) :=
  ext_wrBuf _ _ _ (by rw [List.length_zipWith]; exact Nat.min_le_left _ _)
theorem ext_writeZip (h : Heap α) (d : BufId) (f : α → α → α) (b : BufId) :
    Ext (· = d) h (writeZip h d f b) := ext_writeZipLit h d f (rdBuf h b)

theorem val_allocMap (h : Heap α) (f : α → α) (a : BufId) (k : Nat) :
    val (allocMap h f a).1 h.length k = (val h a k).map f :=
  (val_alloc_new h _ k).trans List.getElem?_map

theorem val_allocZip (h : Heap α) (f : α → α → α) (a b : BufId) (k : Nat) {x y : α}
    (ha : val h a k = some x) (hb : val h b k = some y) :
    val (allocZip h f a b).1 h.length k = some (f x y) := by
  unfold allocZip; rw [val_alloc_new, List.getElem?_zipWith, ← val, ← val, ha, hb]

theorem val_writeMap (h : Heap α) (d : BufId) (f : α → α) (k : Nat) {x : α} (hx : val h d k = some x) :
    val (writeMap h d f) d k = some (f x) := by
  unfold val at *; unfold writeMap; rw [rdBuf_wrBuf_eq _ _ (val_lt hx), List.getElem?_map, hx]; rfl

theorem val_writeZipLit (h : Heap α) (d : BufId) (f : α → α → α) (g : List α) (k : Nat)
    {x y : α} (hx : val h d k = some x) (hy : g[k]? = some y) :
    val (writeZipLit h d f g) d k = some (f x y) := by
  unfold val at *; unfold writeZipLit; rw [rdBuf_wrBuf_eq _ _ (val_lt hx), List.getElem?_zipWith, hx, hy]

theorem val_writeZip (h : Heap α) (d : BufId) (f : α → α → α) (b : BufId) (k : Nat)
    {x y : α} (hx : val h d k = some x) (hy : val h b k = some y) :
    val (writeZip h d f b) d k = some (f x y) := val_writeZipLit h d f (rdBuf h b) k hx hy

/-- a statement that runs only when a test of the source holds -/
theorem ext_ite {W : BufId → Prop} {h : Heap α} (c : Prop) [Decidable c] {r₁ r₂ : Heap α × BufId}
    (h₁ : Ext W h r₁.1) (h₂ : Ext W h r₂.1) : Ext W h (if c then r₁ else r₂).1 := by
  split <;> assumption

theorem val_ite (c : Prop) [Decidable c] {r₁ r₂ : Heap α × BufId} {k : Nat} {v₁ v₂ : α}
    (h₁ : val r₁.1 r₁.2 k = some v₁) (h₂ : val r₂.1 r₂.2 k = some v₂) :
    val (if c then r₁ else r₂).1 (if c then r₁ else r₂).2 k = some (if c then v₁ else v₂) := by
  split <;> assumption

/-- `d op= b` makes no buffer longer; `≤` because `zipWith` truncates where NumPy would broadcast or raise -/
theorem length_rdBuf_wrBufZip_le (h : Heap α) (d : BufId) (f : α → α → α) (b : BufId) (x : BufId) :
    (rdBuf (writeZip h d f b) x).length ≤ (rdBuf h x).length := by
  by_cases hx : x < h.length
  · exact ((ext_writeZip h d f b).2 x hx).1
  · rw [rdBuf, List.getElem?_eq_none (by rw [writeZip_length]; exact Nat.le_of_not_lt hx)]
    exact Nat.zero_le _

end Proofs.OptimStore
