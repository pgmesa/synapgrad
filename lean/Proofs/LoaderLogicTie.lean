import SynapModel.Data
import SynapModel.Generated.LoaderLogic
/-!
# The index arithmetic of `DataLoader`, as read from `data.py` on this run, is the arithmetic of the model

`SynapModel/Generated/LoaderLogic.lean` is rewritten from `/repo/synapgrad/nn/utils/data.py` by `harness/data_formulas.py` on every run.
The parameters of the generated definitions are named after what the code reads (`len_y`, `batach_size`, `step`), and the theorems
apply them with named arguments, so reading another attribute (`np.size(self.y)`, `len(self.X)`) breaks them just as another formula does.
-/
namespace Proofs.LoaderLogicTie
open Synap.Data Synap.Gen.Loader

/-- Python's saturating slice `seq[lo:hi]` on positions `0 … n-1` -/
def pySlice (n lo hi : Nat) : List Nat := ((List.range n).drop lo).take (hi - lo)

theorem len_is_src (n b : Nat) :
    loaderLen n b = if b = 0 then none else some (loader_len (len_y := n) (batach_size := b)) := rfl

theorem item_is_src (nx ny b idx : Nat) :
    loaderItem nx ny b idx =
      (pySlice nx (loader_x_start (idx := idx) (batach_size := b)) (loader_x_end (idx := idx) (batach_size := b)),
       pySlice ny (loader_y_start (idx := idx) (batach_size := b)) (loader_y_end (idx := idx) (batach_size := b))) := by
  unfold loaderItem pySlice loader_x_start loader_x_end loader_y_start loader_y_end
  simp [Nat.add_sub_cancel_left]

theorem iter_is_src (l : Loader) : l.iter = { l with step := loader_iter_step } := rfl

theorem next_is_src (l : Loader) :
    l.next = (loaderLen l.ny l.b).map (fun len =>
      if loader_has_next (step := l.step) (len_ := len)
      then (some (loaderItem l.nx l.ny l.b (loader_next_index (step := l.step))), { l with step := loader_next_step (step := l.step) })
      else (none, l)) := by
  unfold Loader.next loader_has_next loader_next_index loader_next_step
  simp

end Proofs.LoaderLogicTie
