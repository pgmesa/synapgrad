import Proofs.EngineBasic
/-!
# The sweep phase of `backward`: `accumulate`, one step (`grad_fn` call, release), the whole `sweep`

Each of the three layers gets the same three facts: what a successful run does (`accumulate_get`, `backStep_spec`,
`sweep_spec`), when it succeeds (`accumulate_isSome`, `backStep_succ`, `sweep_succ`), and that it runs alike on a
second graph that coincides on the nodes it reads (`accumulate_sim`, `backStep_sim`, `sweep_sim`).
-/
namespace Proofs.Engine
open Synap.Engine

variable {G : Type} [Add G]

/-- the contributions `accumulate` adds to the buffer of `k`, in order -/
def hits (k : Nat) : List Nat → List (Option G) → List G
  | c :: cs, some g :: gs => if c = k then g :: hits k cs gs else hits k cs gs
  | _ :: cs, none :: gs => hits k cs gs
  | _, _ => []

/-- a node after the contributions `l` have been added to its buffer -/
def bump (n : Node G) (l : List G) : Node G :=
  if n.reqGrad then { n with grad := n.grad.map (fun old => l.foldl (· + ·) old) } else n

theorem bump_nil (n : Node G) : bump n [] = n := by
  unfold bump; split
  · simp
  · rfl

theorem strip_bump (n : Node G) (l : List G) : strip (bump n l) = strip n := by
  unfold bump; split <;> rfl

omit [Add G] in
theorem hits_of_not_mem (k : Nat) (cs : List Nat) (gs : List (Option G)) (h : k ∉ cs) : hits k cs gs = [] := by
  fun_induction hits k cs gs with
  | case1 cs g gs ih => exact absurd List.mem_cons_self h
  | case2 c cs g gs hne ih => exact ih (fun e => h (List.mem_cons_of_mem _ e))
  | case3 c cs gs ih => exact ih (fun e => h (List.mem_cons_of_mem _ e))
  | case4 => rfl

/-- **what a successful `accumulate` does, node by node** -/
theorem accumulate_get {ns : Graph G} {cs : List Nat} {gs : List (Option G)} {ns' : Graph G}
    (h : accumulate ns cs gs = some ns') (k : Nat) :
    ns'[k]? = (ns[k]?).map (fun n => bump n (hits k cs gs)) := by
  fun_induction accumulate ns cs gs generalizing ns' with
  | case1 ns c cs g gs n hc hr old hold ih =>
    rw [ih h, getElem?_setGrad, hits]
    by_cases e : c = k
    · subst e; simp [hc, bump, hr, hold]
    · simp [e, Ne.symm e]
  | case2 => cases h
  | case3 ns c cs g gs n hc hr ih =>
    rw [ih h, hits]
    by_cases e : c = k
    · subst e; simp [hc, bump, hr]
    · simp [e]
  | case4 => cases h
  | case5 ns c cs gs ih => rw [ih h, hits]
  | case6 t ns x h1 h2 =>
    cases h
    have : hits k t x = [] := by
      unfold hits; split
      · exact (h1 _ _ _ _ rfl rfl).elim
      · exact (h2 _ _ _ rfl rfl).elim
      · rfl
    rw [this]; simp [bump_nil]

/-- an operand `accumulate` can add to: present, and holding a buffer if it requires grad -/
def Ready (ns : Graph G) (c : Nat) : Prop := ∃ n, ns[c]? = some n ∧ (n.reqGrad = true → n.grad.isSome = true)

omit [Add G] in
theorem ready_setGrad {ns : Graph G} {c : Nat} (hc : Ready ns c) (x : G) (c' : Nat) :
    Ready (setGrad ns c (some x)) c' ↔ Ready ns c' := by
  by_cases e : c' = c
  · subst e
    obtain ⟨n, hn, hg⟩ := hc
    exact iff_of_true ⟨_, by rw [getElem?_setGrad_self, hn]; rfl, fun _ => rfl⟩ ⟨n, hn, hg⟩
  · unfold Ready; rw [getElem?_setGrad_ne _ _ _ _ e]

/-- **when `accumulate` succeeds**: `None += array` is the only way to fail -/
theorem accumulate_isSome (ns : Graph G) (cs : List Nat) (gs : List (Option G)) :
    (accumulate ns cs gs).isSome = true ↔ ∀ c g, (c, some g) ∈ cs.zip gs → Ready ns c := by
  fun_induction accumulate ns cs gs with
  | case1 ns c cs g gs n hc hr old hold ih =>
    have hrc : Ready ns c := ⟨n, hc, fun _ => by simp [hold]⟩
    rw [ih]
    simp only [List.zip_cons_cons, List.mem_cons, Prod.mk.injEq, ready_setGrad hrc]
    exact ⟨fun h c' g' hm => hm.elim (fun e => e.1 ▸ hrc) (h c' g'), fun h c' g' hm => h c' g' (Or.inr hm)⟩
  | case2 ns c cs g gs n hc hr hnone =>
    simp only [Option.isSome_none, Bool.false_eq_true, false_iff]
    intro h
    obtain ⟨m, hm, hg⟩ := h c g (by simp)
    rw [hc] at hm; cases hm
    simp [hnone] at hg; exact absurd hr (by simp [hg])
  | case3 ns c cs g gs n hc hr ih =>
    have hrc : Ready ns c := ⟨n, hc, fun h => absurd h hr⟩
    rw [ih]
    simp only [List.zip_cons_cons, List.mem_cons, Prod.mk.injEq]
    exact ⟨fun h c' g' hm => hm.elim (fun e => e.1 ▸ hrc) (h c' g'), fun h c' g' hm => h c' g' (Or.inr hm)⟩
  | case4 ns c cs g gs hc =>
    simp only [Option.isSome_none, Bool.false_eq_true, false_iff]
    intro h
    obtain ⟨m, hm, _⟩ := h c g (by simp)
    rw [hc] at hm; cases hm
  | case5 ns c cs gs ih =>
    rw [ih]
    simp only [List.zip_cons_cons, List.mem_cons, Prod.mk.injEq, reduceCtorEq, and_false, false_or]
  | case6 t ns x h1 h2 =>
    simp only [Option.isSome_some, true_iff]
    intro c g hm
    cases t with
    | nil => simp at hm
    | cons c' t =>
      cases x with
      | nil => simp at hm
      | cons o x => cases o with
        | none => exact (h2 _ _ _ rfl rfl).elim
        | some g' => exact (h1 _ _ _ _ rfl rfl).elim

/-- what the sweep needs of a successful `accumulate ns cs gs = some ns'` -/
structure AccSpec (ns ns' : Graph G) (cs : List Nat) : Prop where
  skel : Skel ns ns'
  frame : ∀ k : Nat, k ∉ cs → ns'[k]? = ns[k]?
  noreq : ∀ (k : Nat) (n : Node G), ns[k]? = some n → n.reqGrad = false → ns'[k]? = some n
  keep : ∀ (k : Nat) (n n' : Node G), ns[k]? = some n → ns'[k]? = some n' → n.grad.isSome = true → n'.grad.isSome = true

omit [Add G] in
theorem AccSpec.refl (ns : Graph G) (cs : List Nat) : AccSpec ns ns cs :=
  ⟨Skel.refl _, fun _ _ => rfl, fun _ _ h _ => h, fun k n n' h h' hg => by rw [h] at h'; cases h'; exact hg⟩

theorem accumulate_accSpec (ns : Graph G) (cs : List Nat) (gs : List (Option G)) (ns' : Graph G)
    (h : accumulate ns cs gs = some ns') : AccSpec ns ns' cs := by
  refine ⟨?_, ?_, ?_, ?_⟩
  · apply List.ext_getElem?
    intro k
    rw [List.getElem?_map, List.getElem?_map, accumulate_get h k]
    cases ns[k]? <;> simp [strip_bump]
  · intro k hk
    rw [accumulate_get h k, hits_of_not_mem k cs gs hk]
    cases ns[k]? <;> simp [bump_nil]
  · intro k n hn hr
    rw [accumulate_get h k, hn]; simp [bump, hr]
  · intro k n n' hn hn' hg
    rw [accumulate_get h k, hn] at hn'
    simp only [Option.map_some, Option.some.injEq] at hn'
    rw [← hn']; unfold bump; split
    · simpa using hg
    · exact hg

/-- two runs of `accumulate` on graphs that coincide at the operands -/
theorem accumulate_sim (a : Graph G) (cs : List Nat) (gs : List (Option G)) (b : Graph G)
    (hab : ∀ c ∈ cs, a[c]? = b[c]?) :
    (accumulate a cs gs).isSome = (accumulate b cs gs).isSome ∧
    ∀ a' b', accumulate a cs gs = some a' → accumulate b cs gs = some b' →
      ∀ k : Nat, a[k]? = b[k]? → a'[k]? = b'[k]? := by
  refine ⟨Bool.eq_iff_iff.mpr ?_, fun a' b' ha hb k hk => by rw [accumulate_get ha k, accumulate_get hb k, hk]⟩
  rw [accumulate_isSome, accumulate_isSome]
  unfold Ready
  exact ⟨fun h c g hm => by rw [← hab c (List.of_mem_zip hm).1]; exact h c g hm,
    fun h c g hm => by rw [hab c (List.of_mem_zip hm).1]; exact h c g hm⟩

/-- The body of `sweep` is a `match` on a `let`; its two halves get names, `backStep` (the `grad_fn` call) and
    `releaseStep` (the release), so that `sweep_cons` is an equation to rewrite with. -/
def backStep (ns : Graph G) (v : Nat) (n : Node G) (tr : List TrEv) : Option (Graph G × List TrEv) :=
  match n.back, n.grad with
  | some f, some g => ((f g).bind (accumulate ns n.children)).map (fun ns' => (ns', tr ++ [TrEv.call v]))
  | some _, none => none
  | none, _ => some (ns, tr)

/-- the test in front of `node._grad = None` (tensor.py l. 401) -/
def releaseCond (root : Nat) (retainAll : Bool) (v : Nat) (n : Node G) : Bool :=
  v ≠ root && !n.isLeaf && !n.retain && !retainAll

def releaseStep (root : Nat) (retainAll : Bool) (v : Nat) (n : Node G) (p : Graph G × List TrEv) :
    Graph G × List TrEv :=
  if releaseCond root retainAll v n then (setGrad p.1 v none, p.2 ++ [TrEv.release v]) else p

theorem sweep_nil (root : Nat) (rA : Bool) (ns : Graph G) (tr : List TrEv) :
    sweep root rA [] ns tr = some (ns, tr) := rfl

theorem sweep_cons (root : Nat) (rA : Bool) (v : Nat) (rest : List Nat) (ns : Graph G) (tr : List TrEv) :
    sweep root rA (v :: rest) ns tr =
      (ns[v]?).bind fun n => (backStep ns v n tr).bind fun p =>
        sweep root rA rest (releaseStep root rA v n p).1 (releaseStep root rA v n p).2 := by
  rw [sweep]
  cases ns[v]? with
  | none => rfl
  | some n =>
    change (match backStep ns v n tr with
      | none => none
      | some (ns, tr) => if releaseCond root rA v n = true
          then sweep root rA rest (setGrad ns v none) (tr ++ [TrEv.release v])
          else sweep root rA rest ns tr) = (backStep ns v n tr).bind _
    cases backStep ns v n tr with
    | none => rfl
    | some p => simp only [Option.bind_some, releaseStep]; split <;> rfl

theorem backStep_inv {ns : Graph G} {v : Nat} {n : Node G} {tr : List TrEv} {p : Graph G × List TrEv}
    (h : backStep ns v n tr = some p) :
    (n.back = none ∧ p = (ns, tr)) ∨ ∃ f g l ns', n.back = some f ∧ n.grad = some g ∧ f g = some l ∧
      accumulate ns n.children l = some ns' ∧ p = (ns', tr ++ [TrEv.call v]) := by
  unfold backStep at h
  split at h
  · rename_i f g hf hg
    simp only [Option.map_eq_some_iff, Option.bind_eq_some_iff] at h
    obtain ⟨ns', ⟨l, hl, hacc⟩, rfl⟩ := h
    exact Or.inr ⟨f, g, l, ns', hf, hg, hl, hacc, rfl⟩
  · cases h
  · rename_i hf
    cases h
    exact Or.inl ⟨hf, rfl⟩

theorem backStep_spec {ns : Graph G} {v : Nat} {n : Node G} {tr : List TrEv} {p : Graph G × List TrEv}
    (h : backStep ns v n tr = some p) :
    AccSpec ns p.1 n.children ∧ p.2 = tr ++ (if n.back.isSome then [TrEv.call v] else []) ∧
      (n.back.isSome = true → n.grad.isSome = true) := by
  rcases backStep_inv h with ⟨hf, rfl⟩ | ⟨f, g, l, ns', hf, hg, -, hacc, rfl⟩
  · exact ⟨AccSpec.refl _ _, by simp [hf], fun h => by simp [hf] at h⟩
  · exact ⟨accumulate_accSpec _ _ _ _ hacc, by simp [hf], fun _ => by simp [hg]⟩

theorem backStep_succ {ns : Graph G} {v : Nat} {n : Node G} {tr : List TrEv}
    (hg : n.back.isSome = true → n.grad.isSome = true)
    (hf : ∀ f (γ : G), n.back = some f → ∃ l, f γ = some l)
    (hpre : ∀ c ∈ n.children, Ready ns c) :
    ∃ p, backStep ns v n tr = some p := by
  unfold backStep
  split
  · rename_i f g hfb hgb
    obtain ⟨l, hl⟩ := hf f g hfb
    obtain ⟨ns', hacc⟩ := Option.isSome_iff_exists.mp
      ((accumulate_isSome ns n.children l).mpr fun c _ hm => hpre c (List.of_mem_zip hm).1)
    exact ⟨(ns', tr ++ [TrEv.call v]), by simp [hl, hacc]⟩
  · rename_i f hfb hgb
    have := hg (by simp [hfb]); simp [hgb] at this
  · exact ⟨_, rfl⟩

theorem backStep_sim {a b : Graph G} {v : Nat} {n : Node G} {tr : List TrEv} {p : Graph G × List TrEv}
    (h : backStep a v n tr = some p) (hab : ∀ c ∈ n.children, a[c]? = b[c]?) :
    ∃ q, backStep b v n tr = some q ∧ q.2 = p.2 ∧ ∀ k : Nat, a[k]? = b[k]? → p.1[k]? = q.1[k]? := by
  rcases backStep_inv h with ⟨hf, rfl⟩ | ⟨f, g, l, a', hf, hg, hl, ha', rfl⟩
  · exact ⟨(b, tr), by simp [backStep, hf], rfl, fun k hk => hk⟩
  · obtain ⟨h1, h2⟩ := accumulate_sim a n.children l b hab
    obtain ⟨b', hb'⟩ := Option.isSome_iff_exists.mp (h1 ▸ Option.isSome_iff_exists.mpr ⟨a', ha'⟩)
    exact ⟨(b', tr ++ [TrEv.call v]), by simp [backStep, hf, hg, hl, hb'], rfl, h2 a' b' ha' hb'⟩

omit [Add G] in
theorem releaseStep_of_not (root : Nat) (rA : Bool) (v : Nat) (n : Node G) (p : Graph G × List TrEv) (k : Nat)
    (h : k = v → releaseCond root rA v n = false) : (releaseStep root rA v n p).1[k]? = p.1[k]? := by
  unfold releaseStep; split
  · rename_i hc; exact getElem?_setGrad_ne _ _ _ _ (fun e => by rw [h e] at hc; cases hc)
  · rfl

omit [Add G] in
theorem releaseStep_ne (root : Nat) (rA : Bool) (v : Nat) (n : Node G) (p : Graph G × List TrEv) (k : Nat)
    (hk : k ≠ v) : (releaseStep root rA v n p).1[k]? = p.1[k]? :=
  releaseStep_of_not root rA v n p k (fun e => absurd e hk)

omit [Add G] in
theorem releaseStep_self (root : Nat) (rA : Bool) (v : Nat) (n : Node G) (p : Graph G × List TrEv) :
    (releaseStep root rA v n p).1[v]? =
      (p.1[v]?).map (fun m => if releaseCond root rA v n then { m with grad := none } else m) := by
  unfold releaseStep; split
  · rw [getElem?_setGrad_self]
  · cases p.1[v]? <;> simp

omit [Add G] in
theorem releaseStep_trace (root : Nat) (rA : Bool) (v : Nat) (n : Node G) (p : Graph G × List TrEv) :
    (releaseStep root rA v n p).2 = p.2 ++ (if releaseCond root rA v n then [TrEv.release v] else []) := by
  unfold releaseStep; split <;> simp

theorem step_skel (root : Nat) (rA : Bool) {ns : Graph G} {v : Nat} {n : Node G} {tr : List TrEv}
    {p : Graph G × List TrEv} (hb : backStep ns v n tr = some p) : Skel ns (releaseStep root rA v n p).1 := by
  refine (backStep_spec hb).1.skel.trans ?_
  unfold releaseStep; split
  · exact skel_setGrad _ _ _
  · exact Skel.refl _

omit [Add G] in
theorem children_eq_chOf {ns0 ns : Graph G} (hs : Skel ns0 ns) {v : Nat} {n : Node G} (hv : ns[v]? = some n) :
    n.children = chOf ns0 v := by
  rw [chOf_skel hs v]; simp [chOf, hv]

/-- inversion and induction for a successful `sweep` in one rule: each element of the list is a node, its
    `grad_fn` step succeeds, and the rest is swept from the released state -/
@[elab_as_elim] theorem sweep_induct {root : Nat} {rA : Bool}
    {motive : List Nat → Graph G → List TrEv → Graph G × List TrEv → Prop}
    (nil : ∀ ns tr, motive [] ns tr (ns, tr))
    (cons : ∀ v rest ns tr n p res, ns[v]? = some n → backStep ns v n tr = some p →
      motive rest (releaseStep root rA v n p).1 (releaseStep root rA v n p).2 res → motive (v :: rest) ns tr res)
    (L : List Nat) (ns : Graph G) (tr : List TrEv) (res : Graph G × List TrEv)
    (h : sweep root rA L ns tr = some res) : motive L ns tr res := by
  induction L generalizing ns tr with
  | nil => rw [sweep_nil] at h; cases h; exact nil ns tr
  | cons v rest ih =>
    simp only [sweep_cons, Option.bind_eq_some_iff] at h
    obtain ⟨n, hv, p, hb, h⟩ := h
    exact cons v rest ns tr n p res hv hb (ih _ _ h)

/-- the events of one step in front of the events `ev` of the later steps -/
theorem stepEv_length (b r : Bool) (v : Nat) (ev : List TrEv) :
    ((if b then [TrEv.call v] else []) ++ ((if r then [TrEv.release v] else []) ++ ev)).length ≤ ev.length + 2 := by
  cases b <;> cases r
  · exact Nat.le_add_right _ 2
  · exact Nat.le_succ _
  · exact Nat.le_succ _
  · exact Nat.le_refl _

theorem stepEv_count (b r : Bool) (v w : Nat) (ev : List TrEv) :
    ((if b then [TrEv.call v] else []) ++ ((if r then [TrEv.release v] else []) ++ ev)).count (TrEv.call w) =
      ev.count (TrEv.call w) + (if b = true ∧ v = w then 1 else 0) := by
  cases b <;> cases r <;> simp [List.count_cons]

def hasBack (ns0 : Graph G) (v : Nat) : Bool :=
  match ns0[v]? with | some n => n.back.isSome | none => false

omit [Add G] in
theorem hasBack_iff {ns0 : Graph G} {v : Nat} : hasBack ns0 v = true ↔ ∃ n, ns0[v]? = some n ∧ n.back.isSome = true := by
  unfold hasBack; cases ns0[v]? <;> simp

/-- what a successful `sweep root rA L ns tr = some (ns', tr')` guarantees; flags are read off `ns0`, any graph
    with the skeleton of `ns` -/
structure SweepSpec (ns0 : Graph G) (root : Nat) (rA : Bool) (L : List Nat) (ns ns' : Graph G) (tr tr' : List TrEv) : Prop where
  skel : Skel ns ns'
  frame : ∀ k : Nat, k ∉ L → ns'[k]? = ns[k]?
  noreq : ∀ (k : Nat) (n : Node G), ns[k]? = some n → n.reqGrad = false → ns'[k]? = some n
  keep : ∀ (k : Nat) (n n' : Node G), ns[k]? = some n → ns'[k]? = some n' → (k = root ∨ n.isLeaf = true) →
    n.grad.isSome = true → n'.grad.isSome = true
  released : ∀ (k : Nat) (n0 n' : Node G), k ∈ L → k ≠ root → ns0[k]? = some n0 → ns'[k]? = some n' →
    n0.isLeaf = false → n'.grad.isSome = (n0.retain || rA)
  trace : ∃ ev, tr' = tr ++ ev ∧ ev.length ≤ 2 * L.length ∧
    ∀ v : Nat, ev.count (TrEv.call v) = if v ∈ L ∧ hasBack ns0 v = true then 1 else 0

theorem sweep_spec (ns0 : Graph G) (root : Nat) (rA : Bool)
    (L : List Nat) (ns : Graph G) (tr : List TrEv) (ns' : Graph G) (tr' : List TrEv)
    (htopo : Topo (chOf ns0) L) (hs : Skel ns0 ns) (h : sweep root rA L ns tr = some (ns', tr')) :
    SweepSpec ns0 root rA L ns ns' tr tr' := by
  revert htopo hs
  refine sweep_induct (motive := fun L ns tr res => Topo (chOf ns0) L → Skel ns0 ns →
    SweepSpec ns0 root rA L ns res.1 tr res.2) ?_ ?_ L ns tr (ns', tr') h
  · intro ns tr _ _
    exact ⟨Skel.refl _, fun _ _ => rfl, fun _ _ h _ => h,
      fun k n n' h h' _ hg => by rw [h] at h'; cases h'; exact hg,
      fun k n n' hk => by simp at hk, ⟨[], by simp, by simp, fun v => by simp⟩⟩
  · intro v rest ns tr n p res hv hb ih htopo hs
    obtain ⟨hvr, hchr, htopo'⟩ := htopo
    obtain ⟨hacc, htr2, hgs⟩ := backStep_spec hb
    obtain ⟨n0, h0, hst0⟩ := hs.symm.get hv
    have hnch := children_eq_chOf hs hv
    have hvch : v ∉ n.children := fun hm => hvr (hchr v (hnch ▸ hm))
    have hsk3 := step_skel root rA hb
    have IH := ih htopo' (hs.trans hsk3)
    refine ⟨hsk3.trans IH.skel, ?frame, ?noreq, ?keep, ?released, ?trace⟩
    case frame =>
      intro k hk
      have h1 : k ≠ v := fun e => hk (e ▸ List.mem_cons_self)
      have h2 : k ∉ rest := fun e => hk (List.mem_cons_of_mem _ e)
      have h3 : k ∉ n.children := fun e => h2 (hchr k (hnch ▸ e))
      rw [IH.frame k h2, releaseStep_ne _ _ _ _ _ k h1, hacc.frame k h3]
    case noreq =>
      intro k m hm hrm
      refine IH.noreq k m ?_ hrm
      rw [releaseStep_of_not]
      · exact hacc.noreq k m hm hrm
      · rintro rfl
        rw [hv] at hm; cases hm
        simp [releaseCond, Node.isLeaf, hrm]
    case keep =>
      intro k m m' hm hm' hkl hg
      obtain ⟨m2, hm2, hst⟩ := hacc.skel.get hm
      refine IH.keep k m2 m' ?_ hm' (hkl.imp id (fun h => isLeaf_of_strip hst ▸ h)) (hacc.keep k m m2 hm hm2 hg)
      rw [releaseStep_of_not]
      · exact hm2
      · rintro rfl
        rw [hv] at hm; cases hm
        rcases hkl with h | h <;> simp [releaseCond, h]
    case released =>
      intro k m m' hk hkr hm hm' hlf
      by_cases hkv : k = v
      · subst hkv
        rw [h0] at hm; cases hm
        rw [isLeaf_of_strip hst0] at hlf
        rw [IH.frame k hvr, releaseStep_self, hacc.frame k hvch, hv] at hm'
        have hgn := hgs (back_of_nonleaf hlf)
        simp only [Option.map_some, Option.some.injEq] at hm'
        subst hm'
        have hrc : releaseCond root rA k n = (!n.retain && !rA) := by simp [releaseCond, hkr, hlf]
        rw [hrc, retain_of_strip hst0]
        cases n.retain <;> cases rA <;> simp [hgn]
      · exact IH.released k m m' ((List.mem_cons.mp hk).resolve_left hkv) hkr hm hm' hlf
    case trace =>
      obtain ⟨ev3, hev3, hlen3, hc⟩ := IH.trace
      refine ⟨_, by rw [hev3, releaseStep_trace, htr2, List.append_assoc, List.append_assoc],
        Nat.le_trans (stepEv_length _ _ v ev3) (Nat.add_le_add_right hlen3 2), fun w => ?_⟩
      have hb0 : hasBack ns0 v = n.back.isSome := by simp only [hasBack, h0, back_of_strip hst0]
      rw [stepEv_count, hc w]
      by_cases hwv : v = w
      · subst hwv; simp only [hvr, hb0, false_and, if_false, Nat.zero_add, List.mem_cons_self, true_and, and_true]
      · simp only [hwv, and_false, if_false, Nat.add_zero, List.mem_cons, Ne.symm hwv, false_or]

/-- `sweep` leaves node `k` alone when `k` is no operand of a swept node and is not released -/
theorem sweep_fixed (root : Nat) (rA : Bool) (k : Nat) (L : List Nat) (ns : Graph G) (tr : List TrEv)
    (ns' : Graph G) (tr' : List TrEv) (hch : ∀ v ∈ L, k ∉ chOf ns v) (hk : k ∈ L → k = root)
    (h : sweep root rA L ns tr = some (ns', tr')) : ns'[k]? = ns[k]? := by
  revert hch hk
  refine sweep_induct (motive := fun L ns _ res => (∀ v ∈ L, k ∉ chOf ns v) → (k ∈ L → k = root) →
    res.1[k]? = ns[k]?) (fun _ _ _ _ => rfl) ?_ L ns tr (ns', tr') h
  intro v rest ns tr n p res hv hb ih hch hk
  obtain ⟨hacc, _, _⟩ := backStep_spec hb
  have hsk3 := step_skel root rA hb
  have h2 : p.1[k]? = ns[k]? := hacc.frame k (by simpa [chOf, hv] using hch v List.mem_cons_self)
  rw [ih (fun u hu => by rw [← chOf_skel hsk3 u]; exact hch u (List.mem_cons_of_mem _ hu))
    (fun hm => hk (List.mem_cons_of_mem _ hm))]
  rw [releaseStep_of_not _ _ _ _ _ k (fun e => by simp [releaseCond, ← e, hk (e ▸ List.mem_cons_self)]), h2]

theorem sweep_succ (root : Nat) (rA : Bool) (ns0 : Graph G)
    (hbt : ∀ (v : Nat) (n : Node G) (f : G → Option (List (Option G))) (γ : G),
      ns0[v]? = some n → n.back = some f → ∃ l, f γ = some l)
    (hq : ∀ (v : Nat) (n : Node G), ns0[v]? = some n → n.back.isSome = true → n.reqGrad = true) :
    ∀ (L : List Nat) (ns : Graph G) (tr : List TrEv),
      Topo (chOf ns0) L → Skel ns0 ns →
      (∀ x ∈ L, Ready ns x) →
      ∃ res, sweep root rA L ns tr = some res := by
  intro L
  induction L with
  | nil => intro ns tr _ _ _; exact ⟨_, sweep_nil _ _ _ _⟩
  | cons v rest ih =>
    intro ns tr htopo hs hpre
    obtain ⟨hvr, hchr, htopo'⟩ := htopo
    obtain ⟨n, hv, hgv⟩ := hpre v List.mem_cons_self
    obtain ⟨n0, hn0, hst0⟩ := hs.symm.get hv
    have hnch := children_eq_chOf hs hv
    have hback : n0.back = n.back := back_of_strip hst0
    have hreq : n0.reqGrad = n.reqGrad := reqGrad_of_strip hst0
    obtain ⟨p, hb⟩ := backStep_succ (ns := ns) (v := v) (n := n) (tr := tr)
      (fun h => hgv (hreq ▸ hq v n0 hn0 (hback ▸ h)))
      (fun f γ hf => hbt v n0 f γ hn0 (hback ▸ hf))
      (fun c hc => hpre c (List.mem_cons_of_mem _ (hchr c (hnch ▸ hc))))
    obtain ⟨hacc, _, _⟩ := backStep_spec hb
    simp only [sweep_cons, hv, hb, Option.bind_some]
    have hsk3 := step_skel root rA hb
    apply ih _ _ htopo' (hs.trans hsk3)
    intro x hx
    have hxv : x ≠ v := fun e => hvr (e ▸ hx)
    obtain ⟨m, hm, hgm⟩ := hpre x (List.mem_cons_of_mem _ hx)
    obtain ⟨m2, hm2, hst⟩ := hacc.skel.get hm
    refine ⟨m2, by rw [releaseStep_ne _ _ _ _ _ x hxv]; exact hm2, fun hr => ?_⟩
    exact hacc.keep x m m2 hm hm2 (hgm (reqGrad_of_strip hst ▸ hr))

/-- **a successful sweep succeeds alike** on a graph that coincides on the swept nodes: same trace, and the
    results coincide wherever the graphs did -/
theorem sweep_sim (ns0 : Graph G) (root : Nat) (rA : Bool) (L : List Nat) (a : Graph G) (tr : List TrEv)
    (res : Graph G × List TrEv) (h : sweep root rA L a tr = some res) :
    ∀ b : Graph G, Topo (chOf ns0) L → Skel ns0 a → (∀ k ∈ L, a[k]? = b[k]?) →
      ∃ b', sweep root rA L b tr = some (b', res.2) ∧ ∀ k : Nat, a[k]? = b[k]? → res.1[k]? = b'[k]? := by
  refine sweep_induct ?_ ?_ L a tr res h
  · exact fun a tr b _ _ _ => ⟨b, rfl, fun k h => h⟩
  intro v rest a tr n p res hv hb ih b htopo hs hab
  obtain ⟨hvr, hchr, htopo'⟩ := htopo
  have hnch := children_eq_chOf hs hv
  obtain ⟨q, hq, hq2, hq1⟩ := backStep_sim hb (fun c hc => hab c (List.mem_cons_of_mem _ (hchr c (hnch ▸ hc))))
  have hsk3 := step_skel root rA hb
  have hpt3 : ∀ k : Nat, a[k]? = b[k]? → (releaseStep root rA v n p).1[k]? = (releaseStep root rA v n q).1[k]? := by
    intro k hk
    by_cases hkv : k = v
    · subst hkv; rw [releaseStep_self, releaseStep_self, hq1 k hk]
    · rw [releaseStep_ne _ _ _ _ _ k hkv, releaseStep_ne _ _ _ _ _ k hkv]; exact hq1 k hk
  obtain ⟨b', hb', hag⟩ := ih _ htopo' (hs.trans hsk3) (fun k hk => hpt3 k (hab k (List.mem_cons_of_mem _ hk)))
  refine ⟨b', ?_, fun k hk => hag k (hpt3 k hk)⟩
  simp only [sweep_cons, ← hab v List.mem_cons_self, hv, hq, Option.bind_some]
  rw [releaseStep_trace, hq2, ← releaseStep_trace]
  exact hb'

end Proofs.Engine
