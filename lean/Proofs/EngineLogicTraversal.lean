import SynapModel.EngineStack
import SynapModel.Generated.EngineLogic
/-!
# The decision logic of `tensor.py`, as read on this run, is the decision logic of the engine model — traversal order, push / call conditions, loop skeletons (C03, C17)

`SynapModel/Generated/EngineLogic.lean` is rewritten from `/repo/synapgrad/tensor.py` by `harness/engine_logic.py` on every run.
Each generated condition is a Boolean function of *named* atoms; the theorems apply them with named arguments to the
corresponding fields of the model, so both a changed formula and a changed atom break them.  The `*_uses_src` theorems restate
transition functions of the model with the generated conditions in place.  The ties are split over three files by property
(this one, `EngineLogicBuffers`, `EngineLogicFlags`), and import the model only, so that a changed condition breaks the
obligations of the properties that rest on it and no others.
-/
namespace Proofs.EngineLogicTie
open Synap.Engine Synap.Gen.Engine

/-- one turn of the explicit-stack machine: the child is pushed exactly when the source's push condition holds -/
theorem stackStep_uses_src (s : DfsSt G) (v c : Nat) (cs : List Nat) (st : List Frame) :
    stackStep s (⟨v, c :: cs⟩ :: st) =
      (let s' := zeroCheck s c
       if backward_push_cond (child_in_visited_nodes := s'.visited.contains c)
       then ({ s' with visited := c :: s'.visited }, ⟨c, childrenOf s'.ns c⟩ :: ⟨v, cs⟩ :: st)
       else (s', ⟨v, cs⟩ :: st)) := by
  simp only [stackStep]
  cases (zeroCheck s c).visited.contains c <;> rfl

theorem backward_guard_is_model [Add G] (ns : Graph G) (root : Nat) (g : G) (retainAll : Bool) (r : Node G) (h : ns[root]? = some r) :
    backward ns root g retainAll =
      if backward_rejects (self_requires_grad := r.reqGrad) then none else finish (traverse ns root) root g retainAll := by
  unfold backward backward_rejects; rw [h]

/-- `node.grad_fn()` is called exactly when the source's condition holds (`back = none` is `grad_fn is None`) -/
theorem calls_grad_fn_is_model (n : Node G) :
    n.back.isSome = backward_calls_grad_fn (node_grad_fn_is_None := n.back.isNone) := by
  cases n.back <;> rfl

/-- the recursive traversal the engine theorems are stated for tests the same condition (it is proved equal to the
    explicit-stack machine in `Proofs.EngineStack`) -/
theorem visit_uses_src (f v : Nat) (s : DfsSt G) :
    visit (f + 1) v s =
      (if s.visited.contains v then s else
       let s := { s with visited := v :: s.visited }
       let ch := match s.ns[v]? with | some n => n.children | none => []
       let s := ch.foldl (fun s c => visit f c (zeroCheck s c)) s
       { s with ordered := s.ordered ++ [v] }) := by
  rfl

theorem traversal_skeleton_is_modelled : traversalSkeleton = [
    "ordered_nodes = []",
    "visited_nodes = set()",
    "visited_nodes.add(self)",
    "stack = [(self, iter(self._children))]",
    "while stack:",
    "  node, children = stack[-1]",
    "  for child in children:",
    "    if <backward_zero_cond>:",
    "      child.zero_()",
    "    if <backward_push_cond>:",
    "      visited_nodes.add(child)",
    "      stack.append((child, iter(child._children)))",
    "      break",
    "  else:",
    "    ordered_nodes.append(node)",
    "    stack.pop()"] := rfl

theorem sweep_skeleton_is_modelled : sweepSkeleton = [
    "for i, node in enumerate(reversed(ordered_nodes)):",
    "  if <backward_calls_grad_fn>:",
    "    node.grad_fn()",
    "  if <backward_releases>:",
    "    del node._grad",
    "    node._grad = None"] := rfl

end Proofs.EngineLogicTie
