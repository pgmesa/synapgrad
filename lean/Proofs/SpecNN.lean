import Proofs.SpecNNLemmas
import Proofs.AdjointNN
import Proofs.SpecLemmas
import Proofs.SpecReduce
/-!
# Specification theorems for the nn kernels: 2-d convolution and pooling (softmax family and losses: `SpecNNLoss.lean`)

"The executable definition equals its mathematical reading": for each operation the exact
acceptance condition, the output shape, and every output entry as an explicit formula in the
operands' entries.

Conventions: `R` is any commutative ring, `K` any linearly ordered field; `xpad` is the padded
image read at *padded* coordinates; window sums are `Finset` sums over `Finset.range`.
-/
namespace Proofs.SpecNN
open Synap Synap.Np Synap.Kernels Proofs.Core
open Finset

/-- a coordinate `(ih, iw)` of the padded image lies inside the real image -/
def InImage (H W : Nat) (p : Nat × Nat) (ih iw : Nat) : Prop :=
  p.1 ≤ ih ∧ ih < p.1 + H ∧ p.2 ≤ iw ∧ iw < p.2 + W

instance (H W : Nat) (p : Nat × Nat) (ih iw : Nat) : Decidable (InImage H W p ih iw) := by
  unfold InImage; infer_instance

/-- the image of size `H × W` padded by `p = (pH, pW)` cells of value `pad` on every side, read at
    *padded* coordinates: `xpad[n, c, ih, iw] = x[n, c, ih − pH, iw − pW]` inside, `pad` outside -/
def xpad {α : Type} [Zero α] (x : NDArray α) (H W : Nat) (p : Nat × Nat) (pad : α) (n c ih iw : Nat) : α :=
  if InImage H W p ih iw then x.get [n, c, ih - p.1, iw - p.2] else pad

section Windows
variable {α : Type} [Zero α]

/-- `readPad2` and `win2` each carry this match, with their own `f` and `z` -/
theorem winPos_pair {β : Type} (H W : Nat) (s p d : Nat × Nat) (i j a b : Nat) (f : Nat → Nat → β) (z : β) :
    (match winPos H s.1 p.1 d.1 i a, winPos W s.2 p.2 d.2 j b with
      | some qa, some qb => f qa qb | _, _ => z)
    = if InImage H W p (i * s.1 + a * d.1) (j * s.2 + b * d.2)
      then f (i * s.1 + a * d.1 - p.1) (j * s.2 + b * d.2 - p.2) else z := by
  rw [Proofs.Adjoint.winPos_eq, Proofs.Adjoint.winPos_eq]
  by_cases hin : InImage H W p (i * s.1 + a * d.1) (j * s.2 + b * d.2)
  · rw [if_pos hin, if_pos ⟨hin.1, hin.2.1⟩, if_pos ⟨hin.2.2.1, hin.2.2.2⟩]
  · rw [if_neg hin]
    by_cases h1 : p.1 ≤ i * s.1 + a * d.1 ∧ i * s.1 + a * d.1 < p.1 + H
    · rw [if_pos h1, if_neg (fun h2 => hin ⟨h1.1, h1.2, h2.1, h2.2⟩)]
    · rw [if_neg h1]

theorem readPad2_eq (x : NDArray α) (pad : α) (H W : Nat) (s p d : Nat × Nat) (n c i j a b : Nat) :
    readPad2 x pad n c (winPos H s.1 p.1 d.1 i a) (winPos W s.2 p.2 d.2 j b)
      = xpad x H W p pad n c (i * s.1 + a * d.1) (j * s.2 + b * d.2) :=
  winPos_pair H W s p d i j a b (fun qa qb => x.get [n, c, qa, qb]) pad

theorem sn_padGet_eq (g : ConvTools.Geom) (x : NDArray α) (pad : α) (n c ih iw : Nat) :
    ConvTools.padGet g x pad n c ih iw = xpad x g.h g.w g.p pad n c ih iw := rfl

end Windows

section Conv
variable {R : Type} [CommRing R]

/-- **conv2d: acceptance.**  `conv2d(x, w, b, stride, padding, dilation)` returns a result exactly when
    `x` is 4-d `(N, C, H, W)`, `w` is 4-d `(C_out, C, kH, kW)` with the *same* channel count, both
    window counts exist (`convOut`, see `convOut_eq_some_iff`: positive kernel / stride / dilation and
    one dilated window fits the padded axis), and the bias, if given, has `C_out` entries. -/
theorem conv2d_accepts_iff (x w : NDArray R) (b : Option (NDArray R)) (s p d : Nat × Nat) :
    (∃ y, conv2dForward x w b s p d = some y) ↔
      ∃ n c hh ww co kh kw lh lw, x.shape = [n, c, hh, ww] ∧ w.shape = [co, c, kh, kw] ∧
        convOut hh kh s.1 p.1 d.1 = some lh ∧ convOut ww kw s.2 p.2 d.2 = some lw ∧
        ∀ bv, b = some bv → bv.shape.size = co := by
  constructor
  · rintro ⟨y, h⟩
    obtain ⟨n, c, hh, ww, co, kh, kw, lh, lw, h1, h2, h3, h4, h5, -⟩ := Proofs.Adjoint.conv2d_inv x w y b s p d h
    exact ⟨n, c, hh, ww, co, kh, kw, lh, lw, h1, h2, h3, h4, h5⟩
  · rintro ⟨n, c, hh, ww, co, kh, kw, lh, lw, h1, h2, h3, h4, h5⟩
    exact ⟨_, Proofs.Adjoint.conv2d_some x w b s p d h1 h2 h3 h4 h5⟩

/-- **conv2d is a cross-correlation** (PyTorch `F.conv2d`): the result has shape
    `(N, C_out, H_out, W_out)` with `H_out = convOut H kH sH pH dH`, `W_out = convOut W kW sW pW dW`, and
    `out[n,o,i,j] = b[o] + Σ_{c<C} Σ_{a<kH} Σ_{b<kW} w[o,c,a,b] · xpad[n, c, i·sH + a·dH, j·sW + b·dW]`
    where `xpad` is `x` zero-padded by `(pH, pW)` (no kernel flip).  The bias is read flat
    (`b.reshape(-1)[o]`), 0 when absent. -/
theorem conv2d_is_cross_correlation (x w y : NDArray R) (b : Option (NDArray R)) (s p d : Nat × Nat)
    (h : conv2dForward x w b s p d = some y) :
    ∃ n c hh ww co kh kw lh lw, x.shape = [n, c, hh, ww] ∧ w.shape = [co, c, kh, kw] ∧
      convOut hh kh s.1 p.1 d.1 = some lh ∧ convOut ww kw s.2 p.2 d.2 = some lw ∧
      y.shape = [n, co, lh, lw] ∧ y.WF ∧
      ∀ bn o i j, bn < n → o < co → i < lh → j < lw →
        y.get [bn, o, i, j] =
          (match (generalizing := false) b with | some bv => bv.data.getD o 0 | none => 0) +
          ∑ cc ∈ range c, ∑ a ∈ range kh, ∑ bb ∈ range kw,
            w.get [o, cc, a, bb] * xpad x hh ww p 0 bn cc (i * s.1 + a * d.1) (j * s.2 + bb * d.2) := by
  obtain ⟨n, c, hh, ww, co, kh, kw, lh, lw, h1, h2, h3, h4, -, rfl⟩ := Proofs.Adjoint.conv2d_inv x w y b s p d h
  refine ⟨n, c, hh, ww, co, kh, kw, lh, lw, h1, h2, h3, h4, rfl, ofFn_wf _ _, ?_⟩
  intro bn o i j hbn ho hi hj
  rw [get_ofFn _ _ _ (by simp [validIdx, hbn, ho, hi, hj])]
  simp only [Proofs.ConvTools.getI_cons_zero, Proofs.ConvTools.getI_cons_succ,
    Proofs.ConvTools.sum_flatMap_range, Proofs.ConvTools.sum_map_range, readPad2_eq]
  cases b with
  | none => exact (zero_add _).symm
  | some bv => exact add_comm _ _

/-- **the bias is added afterwards**: `conv2d(x, w, b) = conv2d(x, w) + b[o]` entry by entry (so the
    unfold / matmul identity `conv2d_is_unfold_matmul` covers the biased op as well). -/
theorem conv2d_bias_splits (x w b y : NDArray R) (s p d : Nat × Nat)
    (h : conv2dForward x w (some b) s p d = some y) :
    ∃ y0, conv2dForward x w none s p d = some y0 ∧ y0.shape = y.shape ∧
      ∀ bn o i j, validIdx y.shape [bn, o, i, j] →
        y.get [bn, o, i, j] = y0.get [bn, o, i, j] + b.data.getD o 0 := by
  -- on the same geometry the call without bias evaluates to the same entry function less its last summand
  obtain ⟨n, c, hh, ww, co, kh, kw, lh, lw, h1, h2, h3, h4, -, rfl⟩ := Proofs.Adjoint.conv2d_inv x w y (some b) s p d h
  refine ⟨_, Proofs.Adjoint.conv2d_some x w none s p d h1 h2 h3 h4 (fun bv hbv => by cases hbv), rfl,
    fun bn o i j hv => ?_⟩
  change validIdx [n, co, lh, lw] _ at hv
  rw [get_ofFn _ _ _ hv, get_ofFn _ _ _ hv]
  rfl

example : (conv2dForward (⟨[1, 1, 2, 2], [1, 2, 3, 4]⟩ : NDArray Int) ⟨[1, 1, 2, 2], [1, 0, 0, 1]⟩ none (1, 1) (0, 0) (1, 1)).map (·.data)
    = some [5] := by decide

end Conv

section Pool
open Proofs.Adjoint

theorem win2_eq (H W : Nat) (k s p d : Nat × Nat) (i j : Nat) :
    win2 H W k s p d i j = (List.range k.1).flatMap (fun a => (List.range k.2).map (fun b =>
      if InImage H W p (i * s.1 + a * d.1) (j * s.2 + b * d.2)
      then some (i * s.1 + a * d.1 - p.1, j * s.2 + b * d.2 - p.2) else none)) := by
  refine List.flatMap_congr (fun a _ => List.map_congr_left (fun b _ => ?_))
  exact winPos_pair H W s p d i j a b (fun qa qb => some (qa, qb)) none

theorem mem_win2_map {β : Type} (H W : Nat) (k s p d : Nat × Nat) (i j : Nat) (f : Nat × Nat → β) (v : β) :
    some v ∈ (win2 H W k s p d i j).map (fun o => o.map f) ↔
      ∃ a b, a < k.1 ∧ b < k.2 ∧ InImage H W p (i * s.1 + a * d.1) (j * s.2 + b * d.2) ∧
        v = f (i * s.1 + a * d.1 - p.1, j * s.2 + b * d.2 - p.2) := by
  rw [win2_eq]
  simp only [List.mem_map, List.mem_flatMap, List.mem_range]
  constructor
  · rintro ⟨o, ⟨a, ha, b, hb, rfl⟩, ho⟩
    split_ifs at ho with hin
    · exact ⟨a, b, ha, hb, hin, (Option.some.inj ho).symm⟩
    · cases ho
  · rintro ⟨a, b, ha, hb, hin, rfl⟩
    exact ⟨_, ⟨a, ha, b, hb, rfl⟩, by rw [if_pos hin]; rfl⟩

variable {K : Type} [Field K] [LinearOrder K]

/-- **2-d pooling: acceptance.**  Both pooling ops accept exactly the 4-d inputs `(N, C, H, W)` for
    which both window counts exist (positive kernel / stride / dilation, one dilated window fits
    the padded axis; see `convOut_eq_some_iff`).  No relation between padding and kernel size is
    required (PyTorch's `pad ≤ kernel/2` is *not* checked). -/
theorem pool2d_accepts_iff (x : NDArray K) (negInf : K) (k s p d : Nat × Nat) :
    ((∃ y, avgPool2dForward x k s p d = some y) ↔
      ∃ n c H W lh lw, x.shape = [n, c, H, W] ∧ convOut H k.1 s.1 p.1 d.1 = some lh ∧
        convOut W k.2 s.2 p.2 d.2 = some lw) ∧
    ((∃ y, maxPool2dForward x negInf k s p d = some y) ↔
      ∃ n c H W lh lw, x.shape = [n, c, H, W] ∧ convOut H k.1 s.1 p.1 d.1 = some lh ∧
        convOut W k.2 s.2 p.2 d.2 = some lw) := by
  constructor
  · constructor
    · rintro ⟨y, h⟩
      obtain ⟨n, c, H, W, lh, lw, h1, h2, h3, -⟩ := avgPool2d_inv x y k s p d h
      exact ⟨n, c, H, W, lh, lw, h1, h2, h3⟩
    · rintro ⟨n, c, H, W, lh, lw, h1, h2, h3⟩
      exact ⟨_, avgPool2dForward_eq x k s p d h1 h2 h3⟩
  · constructor
    · rintro ⟨y, h⟩
      obtain ⟨n, c, H, W, lh, lw, h1, h2, h3, -⟩ := maxPool2d_inv x y negInf k s p d h
      exact ⟨n, c, H, W, lh, lw, h1, h2, h3⟩
    · rintro ⟨n, c, H, W, lh, lw, h1, h2, h3⟩
      exact ⟨_, by rw [maxPool2dForward, poolGeom2_eq x k s p d n c H W lh lw h1 h2 h3]; rfl⟩

omit [LinearOrder K] in
/-- **avg_pool2d counts the padded zeros** (PyTorch `count_include_pad=True`): shape
    `(N, C, H_out, W_out)` and
    `out[n,c,i,j] = (Σ_{a<kH} Σ_{b<kW} xpad[n, c, i·sH + a·dH, j·sW + b·dW]) / (kH·kW)`
    with `xpad` the zero-padded input. -/
theorem avgpool2d_counts_padding (x y : NDArray K) (k s p d : Nat × Nat) (h : avgPool2dForward x k s p d = some y) :
    ∃ n c H W lh lw, x.shape = [n, c, H, W] ∧ convOut H k.1 s.1 p.1 d.1 = some lh ∧
      convOut W k.2 s.2 p.2 d.2 = some lw ∧ y.shape = [n, c, lh, lw] ∧ y.WF ∧
      ∀ bn cc i j, bn < n → cc < c → i < lh → j < lw →
        y.get [bn, cc, i, j] =
          (∑ a ∈ range k.1, ∑ b ∈ range k.2, xpad x H W p 0 bn cc (i * s.1 + a * d.1) (j * s.2 + b * d.2))
            / ((k.1 * k.2 : Nat) : K) := by
  obtain ⟨n, c, H, W, lh, lw, h1, h2, h3, rfl⟩ := avgPool2d_inv x y k s p d h
  refine ⟨n, c, H, W, lh, lw, h1, h2, h3, rfl, ofFn_wf _ _, ?_⟩
  intro bn cc i j hbn hcc hi hj
  rw [get_ofFn _ _ _ (by simp [validIdx, hbn, hcc, hi, hj])]
  simp only [getI_cons_zero, getI_cons_succ]
  refine congrArg (· / _) ?_
  rw [win2_eq, List.map_flatMap, sum_flatMap_range]
  simp only [List.map_map, sum_map_range, Function.comp_def]
  refine Finset.sum_congr rfl (fun a _ => Finset.sum_congr rfl (fun b _ => ?_))
  unfold xpad
  split_ifs <;> rfl

example : (avgPool2dForward (⟨[1, 1, 2, 2], [1, 2, 3, 6]⟩ : NDArray Int) (2, 2) (1, 1) (0, 0) (1, 1)).map (·.data)
    = some [3] := by decide

/-- **max_pool2d: padding never wins.**  Shape `(N, C, H_out, W_out)`.  For every output position:
    if its window contains at least one real (non-padding) cell, the pooled value is the value at a
    real cell of the window and dominates every real cell of the window (so it is the maximum over
    the real cells, and the `−∞` padding value is never read); if the whole window lies in the padding
    (possible because `pad ≤ kernel/2` is not enforced) the value is the padding value `negInf`. -/
theorem maxpool2d_padding_never_wins (x y : NDArray K) (negInf : K) (k s p d : Nat × Nat)
    (h : maxPool2dForward x negInf k s p d = some y) :
    ∃ n c H W lh lw, x.shape = [n, c, H, W] ∧ convOut H k.1 s.1 p.1 d.1 = some lh ∧
      convOut W k.2 s.2 p.2 d.2 = some lw ∧ y.shape = [n, c, lh, lw] ∧ y.WF ∧
      ∀ bn cc i j, bn < n → cc < c → i < lh → j < lw →
        ((∃ a b, a < k.1 ∧ b < k.2 ∧ InImage H W p (i * s.1 + a * d.1) (j * s.2 + b * d.2)) →
          (∃ a b, a < k.1 ∧ b < k.2 ∧ InImage H W p (i * s.1 + a * d.1) (j * s.2 + b * d.2) ∧
            y.get [bn, cc, i, j] = x.get [bn, cc, i * s.1 + a * d.1 - p.1, j * s.2 + b * d.2 - p.2]) ∧
          (∀ a b, a < k.1 → b < k.2 → InImage H W p (i * s.1 + a * d.1) (j * s.2 + b * d.2) →
            x.get [bn, cc, i * s.1 + a * d.1 - p.1, j * s.2 + b * d.2 - p.2] ≤ y.get [bn, cc, i, j])) ∧
        ((∀ a b, a < k.1 → b < k.2 → ¬ InImage H W p (i * s.1 + a * d.1) (j * s.2 + b * d.2)) →
          y.get [bn, cc, i, j] = negInf) := by
  obtain ⟨n, c, H, W, lh, lw, h1, h2, h3, rfl⟩ := maxPool2d_inv x y negInf k s p d h
  refine ⟨n, c, H, W, lh, lw, h1, h2, h3, rfl, ofFn_wf _ _, ?_⟩
  intro bn cc i j hbn hcc hi hj
  rw [get_ofFn _ _ _ (by simp [validIdx, hbn, hcc, hi, hj])]
  simp only [getI_cons_zero, getI_cons_succ]
  -- `firstMax_inv` speaks of positions in the list of window values; `hcell` reads a real value of that list as a real cell
  have hcell := mem_win2_map H W k s p d i j (fun q => x.get [bn, cc, q.1, q.2])
  rcases Proofs.Subgrad.firstMax_inv
    ((win2 H W k s p d i j).map (fun o => o.map (fun (q : Nat × Nat) => x.get [bn, cc, q.1, q.2]))) with
    ⟨hnone, hno⟩ | ⟨v, m, hsome, hat, hdom⟩
  · rw [hnone]
    refine ⟨?_, fun _ => rfl⟩
    rintro ⟨a, b, ha, hb, hin⟩
    obtain ⟨m, hm⟩ := List.mem_iff_getElem?.1 ((hcell _).2 ⟨a, b, ha, hb, hin, rfl⟩)
    exact absurd hm (hno _ _)
  · rw [hsome]
    obtain ⟨a0, b0, ha0, hb0, hin0, hv0⟩ := (hcell v).1 (List.mem_of_getElem? hat)
    refine ⟨fun _ => ⟨⟨a0, b0, ha0, hb0, hin0, hv0⟩, fun a b ha hb hin => ?_⟩,
      fun hall => absurd hin0 (hall a0 b0 ha0 hb0)⟩
    obtain ⟨m', hm'⟩ := List.mem_iff_getElem?.1 ((hcell _).2 ⟨a, b, ha, hb, hin, rfl⟩)
    exact hdom _ _ hm'

example : (maxPool2dForward (⟨[1, 1, 2, 2], [1, 7, 3, 6]⟩ : NDArray Int) (-1000) (2, 2) (1, 1) (0, 0) (1, 1)).map (·.data)
    = some [7] := by decide

end Pool

section ConvUnfold
open Proofs.ConvTools Proofs.Adjoint Synap.ConvTools
variable {R : Type} [CommRing R]

theorem matmul_2_3 (A B : NDArray R) (co r n l : Nat) (hA : A.shape = [co, r]) (hB : B.shape = [n, r, l]) :
    ∃ mm, matmulForward A B = some mm ∧ mm.shape = [n, co, l] ∧
      ∀ bn o t, bn < n → o < co → t < l →
        mm.get [bn, o, t] = ∑ q ∈ range r, A.get [o, q] * B.get [bn, q, t] := by
  refine ⟨_, matmul_some A B [] [n] [n] co r l hA hB
    (broadcastShapes_absorb_right [] [n] (Nat.zero_le _) (.cons (Or.inr rfl) .nil)), rfl, ?_⟩
  intro bn o t hbn ho ht
  rw [get_ofFn ([n] ++ [co, l]) _ _ (show validIdx [n, co, l] [bn, o, t] from ⟨hbn, ho, ht, trivial⟩),
    show ([bn, o, t] : Idx) = [bn] ++ [o, t] from rfl, mmFn_append A B [] [n] [n] r [bn] o t rfl, sum_map_range]
  refine Finset.sum_congr rfl (fun q _ => ?_)
  rw [bcastIdx_self [n] [bn] ⟨hbn, trivial⟩]
  rfl

theorem reshapeForward_ofNat {α : Type} [Zero α] (x : NDArray α) (s : Shape) (hs : Shape.size s = Shape.size x.shape) :
    reshapeForward x (s.map Int.ofNat) = some (reshapeTo x s) := by
  unfold reshapeForward reshape
  rw [← hs, Proofs.Spec.resolveShape_full]
  rfl

theorem reshapeForward_unflatten {α : Type} [Zero α] (m y : NDArray α) (n c lh lw : Nat) (hm : m.shape = [n, c, lh * lw])
    (hys : y.shape = [n, c, lh, lw]) (hy : y.WF)
    (hget : ∀ bn cc i j, bn < n → cc < c → i < lh → j < lw → y.get [bn, cc, i, j] = m.get [bn, cc, i * lw + j]) :
    reshapeForward m [(n : Int), (c : Int), (lh : Int), (lw : Int)] = some y := by
  have hsz : Shape.size [n, c, lh, lw] = Shape.size m.shape := by
    rw [hm]; simp only [Shape.size, List.foldr]; ring
  rw [show ([(n : Int), (c : Int), (lh : Int), (lw : Int)] : List Int) = [n, c, lh, lw].map Int.ofNat from rfl,
    reshapeForward_ofNat m [n, c, lh, lw] hsz]
  refine congrArg some ?_
  refine ext_get _ _ (ofFn_wf _ _) hy hys.symm ?_
  intro q hq
  obtain ⟨bn, cc, i, j, rfl, hbn, hcc, hi, hj⟩ := validIdx4 hq
  rw [hget bn cc i j hbn hcc hi hj]
  apply get_reshapeTo
  · exact hq
  · rw [hm]; exact ⟨hbn, hcc, mul_add_lt_mul hi hj, trivial⟩
  · rw [hm]; simp only [ravel, Shape.size, List.foldr]; ring

/-- the one fact about the layout of `unfold(x)` (the function the `unfold` op evaluates, `im2colView`) that the
    compositions below use -/
theorem im2colView_win (x : NDArray R) (pad : R) (n c H W : Nat) (k s p d : Nat × Nat)
    (lh lw : Nat) (h3 : convOut H k.1 s.1 p.1 d.1 = some lh) (h4 : convOut W k.2 s.2 p.2 d.2 = some lw) :
    ∃ cols, im2colView ⟨n, c, H, W, k, s, p, d⟩ x pad = some cols ∧ cols.shape = [n, c * k.1 * k.2, lh * lw] ∧
      ∀ bn cc a b i j, bn < n → cc < c → a < k.1 → b < k.2 → i < lh → j < lw →
        cols.get [bn, (cc * k.1 + a) * k.2 + b, i * lw + j]
          = xpad x H W p pad bn cc (i * s.1 + a * d.1) (j * s.2 + b * d.2) := by
  have hk : 0 < k.1 ∧ 0 < k.2 :=
    ⟨((convOut_eq_some_iff _ _ _ _ _ _).1 h3).1, ((convOut_eq_some_iff _ _ _ _ _ _).1 h4).1⟩
  have ho : Geom.out ⟨n, c, H, W, k, s, p, d⟩ = some (lh, lw) := by
    unfold Geom.out; simp only [h3, h4]
  have hcols := im2colSpec_eq ⟨n, c, H, W, k, s, p, d⟩ x pad lh lw ho
  refine ⟨_, (im2colView_eq_spec _ x pad hk).trans hcols, rfl, fun bn cc a b i j hbn hcc ha hb hi hj => ?_⟩
  rw [show (cc * k.1 + a) * k.2 + b = cc * (k.1 * k.2) + (a * k.2 + b) by ring]
  exact (im2colSpec_get_window _ x _ pad lh lw ho hcols hbn hcc hi hj ha hb).trans (sn_padGet_eq _ x pad bn cc _ _)

/-- **conv2d = reshape(matmul(reshape(w), unfold(x)))** (the identity the library documents; zero
    padding, no bias).  For accepted arguments, with `x : (N, C, H, W)`, `w : (C_out, C, kH, kW)`:
    * `wmat = w.reshape(C_out, C·kH·kW)` is accepted, `wmat[o, (c·kH+a)·kW+b] = w[o,c,a,b]`;
    * `cols = unfold(x, (kH,kW), dilation, stride, padding)` (the function the `unfold` op evaluates,
      `im2colView`, pad value 0) is accepted, of shape `(N, C·kH·kW, H_out·W_out)`, with
      `cols[n, (c·kH+a)·kW+b, i·W_out+j] = xpad[n, c, i·sH+a·dH, j·sW+b·dW]`;
    * `mm = wmat @ cols` is accepted, of shape `(N, C_out, H_out·W_out)`;
    * `mm.reshape(N, C_out, H_out, W_out)` is accepted and **equals** `conv2d(x, w)`;
    entry by entry, `conv2d(x,w)[n,o,i,j] = Σ_r wmat[o,r] · cols[n, r, i·W_out + j]`. -/
theorem conv2d_is_unfold_matmul (x w y : NDArray R) (s p d : Nat × Nat)
    (h : conv2dForward x w none s p d = some y) :
    ∃ n c H W co kh kw lh lw wmat cols mm,
      x.shape = [n, c, H, W] ∧ w.shape = [co, c, kh, kw] ∧
      convOut H kh s.1 p.1 d.1 = some lh ∧ convOut W kw s.2 p.2 d.2 = some lw ∧
      reshapeForward w [(co : Int), ((c * kh * kw : Nat) : Int)] = some wmat ∧
      im2colView ⟨n, c, H, W, (kh, kw), s, p, d⟩ x 0 = some cols ∧
      matmulForward wmat cols = some mm ∧
      reshapeForward mm [(n : Int), (co : Int), (lh : Int), (lw : Int)] = some y ∧
      wmat.shape = [co, c * kh * kw] ∧ cols.shape = [n, c * kh * kw, lh * lw] ∧ mm.shape = [n, co, lh * lw] ∧
      (∀ o cc a b, o < co → cc < c → a < kh → b < kw →
        wmat.get [o, (cc * kh + a) * kw + b] = w.get [o, cc, a, b]) ∧
      (∀ bn cc a b i j, bn < n → cc < c → a < kh → b < kw → i < lh → j < lw →
        cols.get [bn, (cc * kh + a) * kw + b, i * lw + j]
          = xpad x H W p 0 bn cc (i * s.1 + a * d.1) (j * s.2 + b * d.2)) ∧
      ∀ bn o i j, bn < n → o < co → i < lh → j < lw →
        y.get [bn, o, i, j] = ∑ r ∈ range (c * kh * kw), wmat.get [o, r] * cols.get [bn, r, i * lw + j] := by
  obtain ⟨n, c, H, W, co, kh, kw, lh, lw, h1, h2, h3, h4, hys, hyw, hyget⟩ :=
    conv2d_is_cross_correlation x w y none s p d h
  obtain ⟨cols, hview, hcs, hcget⟩ := im2colView_win x 0 n c H W (kh, kw) s p d lh lw h3 h4
  have hwsz : Shape.size [co, c * kh * kw] = Shape.size w.shape := by
    rw [h2]; simp only [Shape.size, List.foldr]; ring
  have hwget : ∀ o cc a b, o < co → cc < c → a < kh → b < kw →
      (reshapeTo w [co, c * kh * kw]).get [o, (cc * kh + a) * kw + b] = w.get [o, cc, a, b] := by
    intro o cc a b ho' hcc ha hb
    apply get_reshapeTo
    · exact ⟨ho', mul_add_lt_mul (mul_add_lt_mul hcc ha) hb, trivial⟩
    · rw [h2]; exact ⟨ho', hcc, ha, hb, trivial⟩
    · rw [h2]; simp only [ravel, Shape.size, List.foldr]; ring
  obtain ⟨mm, hmm, hms, hmget⟩ := matmul_2_3 (reshapeTo w [co, c * kh * kw]) cols co (c * kh * kw) n (lh * lw) rfl hcs
  -- the entry formula: the triple sum over `(cc, a, b)` is the sum over the rows
  have key : ∀ bn o i j, bn < n → o < co → i < lh → j < lw →
      y.get [bn, o, i, j] = ∑ r ∈ range (c * kh * kw),
        (reshapeTo w [co, c * kh * kw]).get [o, r] * cols.get [bn, r, i * lw + j] := by
    intro bn o i j hbn ho' hi hj
    rw [hyget bn o i j hbn ho' hi hj, zero_add, sum_range_mul (c * kh) kw, sum_range_mul c kh]
    refine Finset.sum_congr rfl (fun cc hcc => Finset.sum_congr rfl (fun a ha => Finset.sum_congr rfl (fun b hb => ?_)))
    rw [hwget o cc a b ho' (Finset.mem_range.1 hcc) (Finset.mem_range.1 ha) (Finset.mem_range.1 hb),
      hcget bn cc a b i j hbn (Finset.mem_range.1 hcc) (Finset.mem_range.1 ha) (Finset.mem_range.1 hb) hi hj]
  refine ⟨n, c, H, W, co, kh, kw, lh, lw, reshapeTo w [co, c * kh * kw], cols, mm, h1, h2, h3, h4,
    reshapeForward_ofNat w [co, c * kh * kw] hwsz, hview, hmm, ?_, rfl, hcs, hms, hwget, hcget, key⟩
  apply reshapeForward_unflatten mm y n co lh lw hms hys hyw
  intro bn o i j hbn ho' hi hj
  rw [key bn o i j hbn ho' hi hj, hmget bn o (i * lw + j) hbn ho' (mul_add_lt_mul hi hj)]

example : (conv2dForward (⟨[1, 1, 2, 3], [1, 2, 3, 4, 5, 6]⟩ : NDArray Int) ⟨[1, 1, 2, 2], [1, 0, 0, 1]⟩ none (1, 1) (0, 0) (1, 1)).map (·.data)
    = some [6, 8] := by decide

end ConvUnfold

section PoolUnfold
open Proofs.ConvTools Proofs.Adjoint Synap.ConvTools

theorem reduceIdx_axis2 (a b q t : Nat) : reduceIdx [2] false [a, b, q, t] = [a, b, t] := rfl

theorem reduceShape_axis2 (a b q t : Nat) : reduceShape [a, b, q, t] [2] false = [a, b, t] := rfl

theorem unfold_windows {R : Type} [CommRing R] (x : NDArray R) (pad : R) (n c H W : Nat) (k s p d : Nat × Nat)
    (lh lw : Nat) (h3 : convOut H k.1 s.1 p.1 d.1 = some lh) (h4 : convOut W k.2 s.2 p.2 d.2 = some lw) :
    ∃ cols r4, im2colView ⟨n, c, H, W, k, s, p, d⟩ x pad = some cols ∧
      reshapeForward cols [(n : Int), (c : Int), ((k.1 * k.2 : Nat) : Int), ((lh * lw : Nat) : Int)] = some r4 ∧
      r4.shape = [n, c, k.1 * k.2, lh * lw] ∧
      ∀ bn cc a b i j, bn < n → cc < c → a < k.1 → b < k.2 → i < lh → j < lw →
        r4.get [bn, cc, a * k.2 + b, i * lw + j] = xpad x H W p pad bn cc (i * s.1 + a * d.1) (j * s.2 + b * d.2) := by
  obtain ⟨cols, hview, hcs, hcget⟩ := im2colView_win x pad n c H W k s p d lh lw h3 h4
  have hsz : Shape.size [n, c, k.1 * k.2, lh * lw] = Shape.size cols.shape := by
    rw [hcs]; simp only [Shape.size, List.foldr]; ring
  refine ⟨cols, reshapeTo cols [n, c, k.1 * k.2, lh * lw], hview,
    reshapeForward_ofNat cols [n, c, k.1 * k.2, lh * lw] hsz, rfl, ?_⟩
  intro bn cc a b i j hbn hcc ha hb hi hj
  have hl : i * lw + j < lh * lw := mul_add_lt_mul hi hj
  rw [← hcget bn cc a b i j hbn hcc ha hb hi hj]
  apply get_reshapeTo
  · exact ⟨hbn, hcc, mul_add_lt_mul ha hb, hl, trivial⟩
  · rw [hcs]; exact ⟨hbn, mul_add_lt_mul (mul_add_lt_mul hcc ha) hb, hl, trivial⟩
  · rw [hcs]; simp only [ravel, Shape.size, List.foldr]; ring

theorem mean_axis2 {K : Type} [Field K] (a : NDArray K) (n c kk l : Nat) (ha : a.shape = [n, c, kk, l]) :
    ∃ m, meanForward a (.one 2) false = some m ∧ m.shape = [n, c, l] ∧
      ∀ bn cc t, bn < n → cc < c → t < l →
        m.get [bn, cc, t] = (∑ q ∈ range kk, a.get [bn, cc, q, t]) / ((kk : Nat) : K) := by
  rw [meanForward_eq, ha, show (Axes.one 2).norm [n, c, kk, l].length = some [2] from rfl, Option.map_some,
    reduceShape_axis2]
  refine ⟨_, rfl, rfl, ?_⟩
  intro bn cc t hbn hcc ht
  rw [get_map_scatterAdd _ _ _ _ _ _ (show validIdx [n, c, l] [bn, cc, t] from ⟨hbn, hcc, ht, trivial⟩),
    sum_filter_map_eq_ite]
  -- the fibre of `[bn, cc, t]`: the guard `[b, c', t'] = [bn, cc, t]` pins three of the four summation variables
  simp only [sum_allIdx_cons, sum_allIdx_nil, reduceIdx_axis2, beq_iff_eq, List.cons.injEq, and_true, ite_and,
    Finset.sum_ite_irrel, Finset.sum_const_zero, Finset.sum_ite_eq', Finset.mem_range, hbn, hcc, ht, if_true]
  -- the divisor the kernel computes is `kk * 1`
  exact congrArg (fun m : Nat => _ / (m : K)) (Nat.mul_one kk)

variable {K : Type} [Field K] [LinearOrder K]

theorem max_axis2 (a : NDArray K) (n c kk l : Nat) (ha : a.shape = [n, c, kk, l])
    (hn : 0 < n) (hc : 0 < c) (hkk : 0 < kk) (hl : 0 < l) :
    ∃ m, maxForward a (some 2) false = some m ∧ m.shape = [n, c, l] ∧
      ∀ bn cc t, bn < n → cc < c → t < l →
        (∃ q, q < kk ∧ m.get [bn, cc, t] = a.get [bn, cc, q, t]) ∧
        (∀ q, q < kk → a.get [bn, cc, q, t] ≤ m.get [bn, cc, t]) := by
  obtain ⟨hacc, hval⟩ := Proofs.SpecOps.max_spec a (some 2) false
  rw [show SpecOps.extAxes a.shape.length (some 2) = [2] by rw [ha]; rfl, ha, reduceShape_axis2] at hval
  rw [ha] at hacc
  obtain ⟨m, hm⟩ := Option.isSome_iff_exists.1 (hacc.2 ⟨fun d hd => Option.some.inj hd ▸ (by decide : SpecOps.RedDimOk 4 2),
    (Nat.mul_pos hn (Nat.mul_pos hc (Nat.mul_pos hkk (Nat.mul_pos hl Nat.one_pos)))).ne'⟩)
  obtain ⟨hs, hv⟩ := hval m hm
  rw [hs] at hv
  refine ⟨m, hm, hs, fun bn cc t hbn hcc ht => ?_⟩
  obtain ⟨⟨i, h1, h2, h3⟩, h4⟩ := hv [bn, cc, t] ⟨hbn, hcc, ht, trivial⟩
  obtain ⟨b', c', q, t', rfl, hb', hc', hq, ht'⟩ := validIdx4 h1
  cases h2
  exact ⟨⟨q, hq, h3⟩, fun q' hq' => h4 [b', c', q', t'] ⟨hb', hc', hq', ht', trivial⟩ rfl⟩

omit [LinearOrder K] in
/-- **avg_pool2d = mean over the kernel axis of the unfolded input** (the way the library computes
    it).  For accepted arguments, with `x : (N, C, H, W)`, `L = H_out·W_out`:
    `cols = unfold(x, kernel, dilation, stride, padding)` (pad value 0) is accepted;
    `r4 = cols.reshape(N, C, kH·kW, L)` is accepted, `r4[n,c,a·kW+b,i·W_out+j] = xpad[n,c,i·sH+a·dH,j·sW+b·dW]`;
    `m = r4.mean(axis=2)` is accepted; `m.reshape(N, C, H_out, W_out)` is accepted and **equals**
    `avg_pool2d(x)`; entry by entry `avg_pool2d(x)[n,c,i,j] = (Σ_q r4[n,c,q,i·W_out+j]) / (kH·kW)`. -/
theorem avgpool2d_is_unfold_mean (x y : NDArray K) (k s p d : Nat × Nat) (h : avgPool2dForward x k s p d = some y) :
    ∃ n c H W lh lw cols r4 m, x.shape = [n, c, H, W] ∧ convOut H k.1 s.1 p.1 d.1 = some lh ∧
      convOut W k.2 s.2 p.2 d.2 = some lw ∧
      im2colView ⟨n, c, H, W, k, s, p, d⟩ x 0 = some cols ∧
      reshapeForward cols [(n : Int), (c : Int), ((k.1 * k.2 : Nat) : Int), ((lh * lw : Nat) : Int)] = some r4 ∧
      meanForward r4 (.one 2) false = some m ∧
      reshapeForward m [(n : Int), (c : Int), (lh : Int), (lw : Int)] = some y ∧
      r4.shape = [n, c, k.1 * k.2, lh * lw] ∧ m.shape = [n, c, lh * lw] ∧
      (∀ bn cc a b i j, bn < n → cc < c → a < k.1 → b < k.2 → i < lh → j < lw →
        r4.get [bn, cc, a * k.2 + b, i * lw + j] = xpad x H W p 0 bn cc (i * s.1 + a * d.1) (j * s.2 + b * d.2)) ∧
      ∀ bn cc i j, bn < n → cc < c → i < lh → j < lw →
        y.get [bn, cc, i, j] = (∑ q ∈ range (k.1 * k.2), r4.get [bn, cc, q, i * lw + j]) / ((k.1 * k.2 : Nat) : K) := by
  obtain ⟨n, c, H, W, lh, lw, h1, h2, h3, hys, hywf, hyget⟩ := avgpool2d_counts_padding x y k s p d h
  obtain ⟨cols, r4, hview, hr4, hr4s, hr4get⟩ := unfold_windows x 0 n c H W k s p d lh lw h2 h3
  obtain ⟨m, hm, hms, hmget⟩ := mean_axis2 r4 n c (k.1 * k.2) (lh * lw) hr4s
  have key : ∀ bn cc i j, bn < n → cc < c → i < lh → j < lw →
      y.get [bn, cc, i, j] = (∑ q ∈ range (k.1 * k.2), r4.get [bn, cc, q, i * lw + j]) / ((k.1 * k.2 : Nat) : K) := by
    intro bn cc i j hbn hcc hi hj
    rw [hyget bn cc i j hbn hcc hi hj, sum_range_mul k.1 k.2]
    refine congrArg (· / _) ?_
    refine Finset.sum_congr rfl (fun a ha => Finset.sum_congr rfl (fun b hb => ?_))
    rw [hr4get bn cc a b i j hbn hcc (Finset.mem_range.1 ha) (Finset.mem_range.1 hb) hi hj]
  refine ⟨n, c, H, W, lh, lw, cols, r4, m, h1, h2, h3, hview, hr4, hm, ?_, hr4s, hms, hr4get, key⟩
  apply reshapeForward_unflatten m y n c lh lw hms hys hywf
  intro bn cc i j hbn hcc hi hj
  rw [key bn cc i j hbn hcc hi hj, hmget bn cc (i * lw + j) hbn hcc (mul_add_lt_mul hi hj)]

/-- **max_pool2d = max over the kernel axis of the unfolded input padded with `−∞`.**  Guards (both
    needed): the padding value `negInf` must be a lower bound
    of the entries of `x` (the model's `−∞`), and `N, C > 0` — `max` over an axis *rejects* arrays
    without elements (`max_rejects_empty`), whereas `max_pool2d` itself accepts empty batches.  Then
    `cols = unfold(x, …, pad_value=negInf)`, `r4 = cols.reshape(N, C, kH·kW, L)`,
    `m = r4.max(dim=2)`, and `m.reshape(N, C, H_out, W_out)` are all accepted and the last **equals**
    `max_pool2d(x)`; each entry is attained on, and dominates, the column `r4[n, c, :, i·W_out+j]`. -/
theorem maxpool2d_is_unfold_max (x y : NDArray K) (negInf : K) (k s p d : Nat × Nat)
    (h : maxPool2dForward x negInf k s p d = some y)
    (hn : x.shape.getD 0 0 ≠ 0) (hc : x.shape.getD 1 0 ≠ 0)
    (hneg : ∀ q, validIdx x.shape q → negInf ≤ x.get q) :
    ∃ n c H W lh lw cols r4 m, x.shape = [n, c, H, W] ∧ convOut H k.1 s.1 p.1 d.1 = some lh ∧
      convOut W k.2 s.2 p.2 d.2 = some lw ∧
      im2colView ⟨n, c, H, W, k, s, p, d⟩ x negInf = some cols ∧
      reshapeForward cols [(n : Int), (c : Int), ((k.1 * k.2 : Nat) : Int), ((lh * lw : Nat) : Int)] = some r4 ∧
      maxForward r4 (some 2) false = some m ∧
      reshapeForward m [(n : Int), (c : Int), (lh : Int), (lw : Int)] = some y ∧
      r4.shape = [n, c, k.1 * k.2, lh * lw] ∧ m.shape = [n, c, lh * lw] ∧
      (∀ bn cc a b i j, bn < n → cc < c → a < k.1 → b < k.2 → i < lh → j < lw →
        r4.get [bn, cc, a * k.2 + b, i * lw + j] = xpad x H W p negInf bn cc (i * s.1 + a * d.1) (j * s.2 + b * d.2)) ∧
      ∀ bn cc i j, bn < n → cc < c → i < lh → j < lw →
        (∃ q, q < k.1 * k.2 ∧ y.get [bn, cc, i, j] = r4.get [bn, cc, q, i * lw + j]) ∧
        (∀ q, q < k.1 * k.2 → r4.get [bn, cc, q, i * lw + j] ≤ y.get [bn, cc, i, j]) := by
  obtain ⟨n, c, H, W, lh, lw, h1, h2, h3, hys, hywf, hyspec⟩ := maxpool2d_padding_never_wins x y negInf k s p d h
  rw [h1] at hn hc hneg
  obtain ⟨hk1, -, -, -, hlh⟩ := (convOut_eq_some_iff _ _ _ _ _ _).1 h2
  obtain ⟨hk2, -, -, -, hlw⟩ := (convOut_eq_some_iff _ _ _ _ _ _).1 h3
  have hL : 0 < lh * lw := Nat.mul_pos (by rw [hlh]; exact Nat.succ_pos _) (by rw [hlw]; exact Nat.succ_pos _)
  obtain ⟨cols, r4, hview, hr4, hr4s, hr4get⟩ := unfold_windows x negInf n c H W k s p d lh lw h2 h3
  obtain ⟨m, hm, hms, hmspec⟩ := max_axis2 r4 n c (k.1 * k.2) (lh * lw) hr4s
    (Nat.pos_of_ne_zero hn) (Nat.pos_of_ne_zero hc) (Nat.mul_pos hk1 hk2) hL
  have key : ∀ bn cc i j, bn < n → cc < c → i < lh → j < lw → y.get [bn, cc, i, j] = m.get [bn, cc, i * lw + j] := by
    intro bn cc i j hbn hcc hi hj
    obtain ⟨⟨q0, hq0, hm0⟩, hmdom⟩ := hmspec bn cc (i * lw + j) hbn hcc (mul_add_lt_mul hi hj)
    obtain ⟨a0, b0, ha0, hb0, rfl⟩ : ∃ a b, a < k.1 ∧ b < k.2 ∧ a * k.2 + b = q0 :=
      ⟨_, _, (div_mod_lt_of_lt_mul hq0).1, (div_mod_lt_of_lt_mul hq0).2, Nat.div_add_mod' q0 k.2⟩
    rw [hr4get bn cc a0 b0 i j hbn hcc ha0 hb0 hi hj] at hm0
    unfold xpad at hm0
    obtain ⟨hreal, hpad⟩ := hyspec bn cc i j hbn hcc hi hj
    by_cases hex : ∃ a b, a < k.1 ∧ b < k.2 ∧ InImage H W p (i * s.1 + a * d.1) (j * s.2 + b * d.2)
    · obtain ⟨⟨a1, b1, ha1, hb1, hin1, hy1⟩, hydom⟩ := hreal hex
      apply le_antisymm
      · -- the pooled value is an entry of the column
        have := hmdom _ (mul_add_lt_mul ha1 hb1)
        rw [hr4get bn cc a1 b1 i j hbn hcc ha1 hb1 hi hj] at this
        unfold xpad at this
        rwa [if_pos hin1, ← hy1] at this
      · -- the entry of the column that is the maximum: a real cell (dominated) or the padding value (a lower bound)
        rw [hm0]
        split_ifs with hin
        · exact hydom _ _ ha0 hb0 hin
        · rw [hy1]
          exact hneg _ ⟨hbn, hcc, Nat.sub_lt_left_of_lt_add hin1.1 hin1.2.1,
            Nat.sub_lt_left_of_lt_add hin1.2.2.1 hin1.2.2.2, trivial⟩
    · rw [hpad (fun a b ha hb hin => hex ⟨a, b, ha, hb, hin⟩), hm0, if_neg (fun hin => hex ⟨_, _, ha0, hb0, hin⟩)]
  refine ⟨n, c, H, W, lh, lw, cols, r4, m, h1, h2, h3, hview, hr4, hm,
    reshapeForward_unflatten m y n c lh lw hms hys hywf key, hr4s, hms, hr4get, ?_⟩
  intro bn cc i j hbn hcc hi hj
  rw [key bn cc i j hbn hcc hi hj]
  exact hmspec bn cc (i * lw + j) hbn hcc (mul_add_lt_mul hi hj)

/-- the guard `N, C > 0` of `maxpool2d_is_unfold_max` is necessary: `max` along an axis rejects an
    array without elements (NumPy: "zero-size array to reduction operation maximum which has no identity") -/
theorem max_rejects_empty (a : NDArray K) (dim : Option Int) (keep : Bool) (h : Shape.size a.shape = 0) :
    maxForward a dim keep = none :=
  Option.not_isSome_iff_eq_none.1 fun hs => ((Proofs.SpecOps.max_spec a dim keep).1.1 hs).2 h

example : ∃ y, avgPool2dForward (⟨[1, 1, 2, 2], [1, 2, 3, 6]⟩ : NDArray Rat) (2, 2) (1, 1) (0, 0) (1, 1) = some y :=
  ((pool2d_accepts_iff _ 0 _ _ _ _).1).2 ⟨1, 1, 2, 2, 1, 1, rfl, by decide, by decide⟩

example : ∃ n c H W lh lw cols r4 m, (⟨[1, 1, 1, 1], [5]⟩ : NDArray Rat).shape = [n, c, H, W] ∧
      convOut H 1 1 0 1 = some lh ∧ convOut W 1 1 0 1 = some lw ∧
      im2colView ⟨n, c, H, W, (1, 1), (1, 1), (0, 0), (1, 1)⟩ (⟨[1, 1, 1, 1], [5]⟩ : NDArray Rat) 0 = some cols ∧
      reshapeForward cols [(n : Int), (c : Int), ((1 * 1 : Nat) : Int), ((lh * lw : Nat) : Int)] = some r4 ∧
      maxForward r4 (some 2) false = some m := by
  obtain ⟨n, c, H, W, lh, lw, cols, r4, m, h1, h2, h3, h4, h5, h6, -⟩ :=
    maxpool2d_is_unfold_max (⟨[1, 1, 1, 1], [5]⟩ : NDArray Rat) _ 0 (1, 1) (1, 1) (0, 0) (1, 1) rfl (by decide) (by decide)
      (fun q hq => by
        have hmem := get_mem_data (⟨[1, 1, 1, 1], [5]⟩ : NDArray Rat) rfl q hq
        rw [List.mem_singleton.1 hmem]
        decide)
  exact ⟨n, c, H, W, lh, lw, cols, r4, m, h1, h2, h3, h4, h5, h6⟩

end PoolUnfold

end Proofs.SpecNN
