import Proofs.ArrayMapLemmas
import SynapModel.Kernels.NN
import Mathlib.Analysis.SpecialFunctions.Pow.Deriv
import Mathlib.Analysis.SpecialFunctions.Sqrt
import Mathlib.Analysis.SpecialFunctions.Trigonometric.DerivHyp
import Mathlib.Analysis.SpecialFunctions.Sigmoid
/-!
# Vector-Jacobian products of the pointwise nonlinear ops (C01 / C02), over ℝ

The model kernels are instantiated at `α = ℝ` with `exp, log, sqrt, tanh, x^y` taken from Mathlib.
For a pointwise op `y[i] = φ(a[i])` the Jacobian is diagonal, so "backward = VJP" means
`backward(g)[i] = g[i] · φ'(a[i])` together with `HasDerivAt φ (φ' x) x` on the op's domain: `PointwiseVJP`.
-/
namespace Proofs.Calc
open Synap Synap.NDArray Synap.Kernels

noncomputable instance : Transc ℝ := ⟨Real.exp, Real.log, Real.sqrt, Real.tanh, fun x y => x ^ y⟩

def PointwiseVJP (fwd : NDArray ℝ → NDArray ℝ) (bwd : NDArray ℝ → NDArray ℝ → NDArray ℝ)
    (φ φ' : ℝ → ℝ) (dom : ℝ → Prop) : Prop :=
  (∀ x, dom x → HasDerivAt φ (φ' x) x) ∧
  ∀ (a g : NDArray ℝ), a.WF → g.WF → g.shape = a.shape →
    (fwd a).WF ∧ (fwd a).shape = a.shape ∧ (bwd g a).WF ∧ (bwd g a).shape = a.shape ∧
    ∀ i, validIdx a.shape i → (fwd a).get i = φ (a.get i) ∧ (bwd g a).get i = g.get i * φ' (a.get i)

/-! A `map` forward with a `zipSame` backward is a pointwise VJP; the backward kernel reads either the operand or
the saved output (`exp`, `sqrt`, `n ** x`, `tanh`, `sigmoid`). -/

theorem pointwiseVJP_of_in {fwd : NDArray ℝ → NDArray ℝ} {bwd : NDArray ℝ → NDArray ℝ → NDArray ℝ}
    {φ φ' : ℝ → ℝ} {dom : ℝ → Prop} (φk : ℝ → ℝ) (ψ : ℝ → ℝ → ℝ)
    (hf : ∀ a, fwd a = a.map φk) (hb : ∀ g a, bwd g a = zipSame ψ g a)
    (hφ : ∀ x, φk x = φ x) (hψ : ∀ gv x, ψ gv x = gv * φ' x)
    (hd : ∀ x, dom x → HasDerivAt φ (φ' x) x) : PointwiseVJP fwd bwd φ φ' dom := by
  refine ⟨hd, fun a g ha hg hs => ?_⟩
  rw [hf, hb]
  refine ⟨map_wf _ _ ha, rfl, zipSame_wf _ _ _ hg ha hs, hs, fun i hi => ⟨?_, ?_⟩⟩
  · rw [get_map _ _ ha _ hi, hφ]
  · rw [get_zipSame _ _ _ hg ha hs _ (hs ▸ hi), hψ]

theorem pointwiseVJP_of_out {fwd : NDArray ℝ → NDArray ℝ} {bwd : NDArray ℝ → NDArray ℝ → NDArray ℝ}
    {φ φ' : ℝ → ℝ} {dom : ℝ → Prop} (φk : ℝ → ℝ) (ψ : ℝ → ℝ → ℝ)
    (hf : ∀ a, fwd a = a.map φk) (hb : ∀ g a, bwd g a = zipSame ψ g (a.map φk))
    (hφ : ∀ x, φk x = φ x) (hψ : ∀ gv x, ψ gv (φk x) = gv * φ' x)
    (hd : ∀ x, dom x → HasDerivAt φ (φ' x) x) : PointwiseVJP fwd bwd φ φ' dom :=
  pointwiseVJP_of_in φk (fun gv x => ψ gv (φk x)) hf
    (fun g a => (hb g a).trans (congrArg (NDArray.mk g.shape) List.zipWith_map_right)) hφ hψ hd

theorem maxS_eq_max {K : Type} [LinearOrder K] (x y : K) : maxS x y = max x y :=
  (max_def_lt x y).symm

/-- the indicator form `(x > 0) + c·(x ≤ 0)` in which the source writes the slopes of leaky relu and selu -/
theorem indPos_add_mul_indNonPos (x c : ℝ) : indPos x + c * indNonPos x = if 0 < x then 1 else c := by
  by_cases h : 0 < x
  · simp [indPos, indNonPos, h, not_le.mpr h]
  · simp [indPos, indNonPos, h, not_lt.mp h]

theorem leaky_relu_factor_eq (g x s : ℝ) : g * (indPos x + s * indNonPos x) = g * (if 0 < x then 1 else s) :=
  congrArg (g * ·) (indPos_add_mul_indNonPos x s)

/-- the clamp form in which the source writes selu is the case split on the sign of `x`: for `α > 0`,
    `α (eˣ − 1)` has the sign of `x` -/
theorem selu_clamp_eq (x α : ℝ) (hα : 0 < α) :
    maxS 0 x + minS 0 (α * (Real.exp x - 1)) = if 0 < x then x else α * (Real.exp x - 1) := by
  by_cases h : 0 < x
  · have h1 : ¬ α * (Real.exp x - 1) < 0 :=
      not_lt.mpr (mul_pos hα (sub_pos.mpr (Real.one_lt_exp_iff.mpr h))).le
    rw [maxS, minS, if_pos h, if_pos h, if_neg h1, add_zero]
  · have h1 : α * (Real.exp x - 1) ≤ 0 :=
      mul_nonpos_of_nonneg_of_nonpos hα.le (sub_nonpos.mpr (Real.exp_le_one_iff.mpr (not_lt.mp h)))
    rw [maxS, minS, if_neg h, if_neg h, zero_add]
    split_ifs with h2
    · rfl
    · exact le_antisymm (not_lt.mp h2) h1

theorem selu_factor_eq (g x α s : ℝ) :
    s * g * (indPos x + α * Real.exp (minS x 0) * indNonPos x) = g * (s * (if 0 < x then 1 else α * Real.exp x)) := by
  rw [indPos_add_mul_indNonPos, mul_comm s g, mul_assoc]
  split_ifs with h
  · rfl
  · rw [minS, if_neg h]

theorem one_div_one_add_exp_neg (x : ℝ) : 1 / (1 + Real.exp (-x)) = Real.sigmoid x := by
  rw [Real.sigmoid_def, one_div]

theorem seluAlpha_pos : 0 < (seluAlpha : ℝ) := by
  unfold seluAlpha
  norm_num

theorem hasDerivAt_tanh (x : ℝ) : HasDerivAt Real.tanh (1 - Real.tanh x ^ 2) x := by
  have hc : Real.cosh x ≠ 0 := (Real.cosh_pos x).ne'
  have e : Real.sinh / Real.cosh = Real.tanh := funext fun y => (Real.tanh_eq_sinh_div_cosh y).symm
  have h := (Real.hasDerivAt_sinh x).div (Real.hasDerivAt_cosh x) hc
  rw [e] at h
  refine h.congr_deriv ?_
  rw [Real.tanh_eq_sinh_div_cosh, div_pow, sub_div, ← pow_two, div_self (pow_ne_zero 2 hc), pow_two (Real.sinh x)]

theorem hasDerivAt_sigmoid_div (x : ℝ) :
    HasDerivAt (fun x => 1 / (1 + Real.exp (-x))) ((1 / (1 + Real.exp (-x))) * (1 - 1 / (1 + Real.exp (-x)))) x := by
  simp only [one_div_one_add_exp_neg]
  exact Real.hasDerivAt_sigmoid x

/-- `log` as the library computes it: `log(x + 1e-12)` -/
theorem hasDerivAt_log_eps {x : ℝ} (hx : x + (epsilon : ℝ) ≠ 0) :
    HasDerivAt (fun x => Real.log (x + (epsilon : ℝ))) (1 / (x + (epsilon : ℝ))) x := by
  simpa using ((hasDerivAt_id x).add_const (epsilon : ℝ)).log hx

theorem hasDerivAt_ite_pos {f g : ℝ → ℝ} {f' g' x : ℝ} (hx : x ≠ 0)
    (hf : 0 < x → HasDerivAt f f' x) (hg : x < 0 → HasDerivAt g g' x) :
    HasDerivAt (fun y => if 0 < y then f y else g y) (if 0 < x then f' else g') x := by
  rcases lt_or_gt_of_ne hx with h | h
  · rw [if_neg (not_lt.mpr h.le)]
    exact (hg h).congr_of_eventuallyEq ((gt_mem_nhds h).mono fun y hy => if_neg (not_lt.mpr hy.le))
  · rw [if_pos h]
    exact (hf h).congr_of_eventuallyEq ((lt_mem_nhds h).mono fun y hy => if_pos hy)

theorem hasDerivAt_relu {x : ℝ} (hx : x ≠ 0) : HasDerivAt (fun y : ℝ => max 0 y) (if 0 < x then 1 else 0) x := by
  have e : (fun y : ℝ => max 0 y) = fun y => if 0 < y then y else 0 := funext fun y => (maxS_eq_max 0 y).symm
  rw [e]
  exact hasDerivAt_ite_pos hx (fun _ => hasDerivAt_id' x) (fun _ => hasDerivAt_const x 0)

theorem hasDerivAt_leaky_relu (s : ℝ) {x : ℝ} (hx : x ≠ 0) :
    HasDerivAt (fun y : ℝ => if 0 < y then y else s * y) (if 0 < x then 1 else s) x :=
  hasDerivAt_ite_pos hx (fun _ => hasDerivAt_id' x)
    (fun _ => ((hasDerivAt_id' x).const_mul s).congr_deriv (mul_one s))

theorem hasDerivAt_selu (α s : ℝ) {x : ℝ} (hx : x ≠ 0) :
    HasDerivAt (fun y : ℝ => s * (if 0 < y then y else α * (Real.exp y - 1)))
      (s * (if 0 < x then 1 else α * Real.exp x)) x :=
  (hasDerivAt_ite_pos hx (fun _ => hasDerivAt_id' x)
    (fun _ => ((Real.hasDerivAt_exp x).sub_const 1).const_mul α)).const_mul s

theorem selu_vjp_of_pos (α s : ℝ) (hα : 0 < α) :
    PointwiseVJP (fun a => seluForward a α s) (fun g a => seluBackward g a α s)
      (fun x => s * (if 0 < x then x else α * (Real.exp x - 1)))
      (fun x => s * (if 0 < x then 1 else α * Real.exp x)) (fun x => x ≠ 0) :=
  pointwiseVJP_of_in (fun x => s * (maxS 0 x + minS 0 (α * (Real.exp x - 1))))
    (fun gv x => s * gv * (indPos x + α * Real.exp (minS x 0) * indNonPos x))
    (fun _ => rfl) (fun _ _ => rfl) (fun x => congrArg _ (selu_clamp_eq x α hα))
    (fun gv x => selu_factor_eq gv x α s) (fun _ hx => hasDerivAt_selu α s hx)

end Proofs.Calc
