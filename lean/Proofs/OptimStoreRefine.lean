import Proofs.OptimStoreFrame
/-!
# The store model refines the value-level model `Synap.Optim`, element by element

The abstraction reads one scalar out of every array: `AbsP s i k q` says that the value-level
parameter `q` is element `k` of parameter `i` of the store `s` (data, gradient if there is one,
flag); `AbsB` and `AbsMo` say the same of the optimizer's state for that element (SGD's momentum
buffer; Adam's two moments and step counter).  The engine's events act on `AbsP` as the value-level
events and keep every relation that reads the optimizer's entries only (`OptRel`); a `step` that is
a loop over the parameters acts as the value-level `stepP` once the array statements of its body
compute the value-level update on one element (`StepLoop.refines`).
-/
namespace Proofs.OptimStore
open Synap.OptimStore
open Synap.Optim (SGDCfg AdamCfg HasSqrt P Moments)

variable {α : Type}

/-- element `k` of an optional buffer: `some none` when there is no buffer, `none` when there is
    one without an element `k` -/
def optVal (h : Heap α) (b : Option BufId) (k : Nat) : Option (Option α) :=
  match b with
  | none => some none
  | some x => (val h x k).map some

def AbsP (s : Store α) (i k : Nat) (q : P α) : Prop :=
  ∃ p, s.ps[i]? = some p ∧ val s.heap p.data k = some q.θ ∧ optVal s.heap p.grad k = some q.grad ∧ p.rg = q.rg

def AbsB (s : Store α) (i k : Nat) (b : Option α) : Prop :=
  ∃ ob, s.b1[i]? = some ob ∧ optVal s.heap ob k = some b

theorem optVal_some {h : Heap α} {x : BufId} {k : Nat} {v : α} (hv : val h x k = some v) :
    optVal h (some x) k = some (some v) := congrArg (Option.map some) hv

theorem optVal_cases {h : Heap α} {ob : Option BufId} {k : Nat} {bo : Option α}
    (hv : optVal h ob k = some bo) :
    (ob = none ∧ bo = none) ∨ ∃ x v, ob = some x ∧ bo = some v ∧ val h x k = some v := by
  cases ob with
  | none => exact Or.inl ⟨rfl, (Option.some.inj hv).symm⟩
  | some x =>
    obtain ⟨v, hx, rfl⟩ := Option.map_eq_some_iff.mp hv
    exact Or.inr ⟨x, v, rfl, rfl, hx⟩

theorem Ext.optVal_kept {W : BufId → Prop} {h h' : Heap α} (a : Ext W h h') {ob : Option BufId} {k : Nat}
    {bo : Option α} (hw : ∀ x, ob = some x → ¬ W x) (hv : optVal h ob k = some bo) :
    optVal h' ob k = some bo := by
  rcases optVal_cases hv with ⟨rfl, rfl⟩ | ⟨x, v, rfl, rfl, hx⟩
  · rfl
  · exact optVal_some (a.val_kept (hw x rfl) hx)

theorem AbsP.frame {W : BufId → Prop} {s s' : Store α} {i k : Nat} {q : P α}
    (e : Ext W s.heap s'.heap) (hps : s'.ps[i]? = s.ps[i]?)
    (hW : ∀ x, W x → slot s .data i ≠ some x ∧ slot s .grad i ≠ some x) (a : AbsP s i k q) :
    AbsP s' i k q := by
  obtain ⟨p, hp, hθ, hg, hr⟩ := a
  exact ⟨p, hps.trans hp, e.val_kept (fun w => (hW _ w).1 (slot_data_of hp)) hθ,
    e.optVal_kept (fun x hx w => (hW _ w).2 (by rw [slot_grad_of hp, hx])) hg, hr⟩

theorem absP_lt {s : Store α} {i k : Nat} {q : P α} (a : AbsP s i k q) : i < s.ps.length := by
  obtain ⟨p, hp, _⟩ := a; exact (List.getElem?_eq_some_iff.mp hp).1

/-- `R` speaks of the optimizer state of parameter `i` only: it survives every transition that keeps
    the optimizer's entries for `i` and overwrites neither of its two buffers -/
def OptRel (i : Nat) (R : Store α → Prop) : Prop :=
  ∀ {W : BufId → Prop} {s s' : Store α}, Ext W s.heap s'.heap →
    s'.b1[i]? = s.b1[i]? → s'.b2[i]? = s.b2[i]? → s'.steps[i]? = s.steps[i]? →
    (∀ x, W x → slot s .b1 i ≠ some x ∧ slot s .b2 i ≠ some x) → R s → R s'

theorem absB_optRel (i k : Nat) (b : Option α) : OptRel i (fun s : Store α => AbsB s i k b) := by
  rintro W s s' e h1 - - hW ⟨ob, hob, hv⟩
  exact ⟨ob, h1.trans hob, e.optVal_kept (fun x hx w => (hW x w).1 (hx ▸ slot_b1_of hob)) hv⟩

theorem engine_opt [Add α] [Zero α] (step : Store α → Store α) (s : Store α) (e : Ev α) (he : e ≠ .step) :
    (sgdEvG step s e).b1 = s.b1 ∧ (sgdEvG step s e).b2 = s.b2 ∧ (sgdEvG step s e).steps = s.steps := by
  cases e with
  | backward i g =>
    show (accumulate s i g).b1 = s.b1 ∧ (accumulate s i g).b2 = s.b2 ∧ (accumulate s i g).steps = s.steps
    rw [accumulate_eq]; exact (gradAt_rest s i _).1
  | backwardRoot i g => exact (gradAt_rest s i _).1
  | zeroGrad => exact (zeroGrad_moves s).2
  | setRg i b =>
    show (setRg s i b).b1 = s.b1 ∧ (setRg s i b).b2 = s.b2 ∧ (setRg s i b).steps = s.steps
    unfold setRg; split <;> exact ⟨rfl, rfl, rfl⟩
  | step => exact absurd rfl he

theorem engine_keeps [Add α] [Zero α] {i : Nat} {R : Store α → Prop} (hR : OptRel i R)
    (step : Store α → Store α) {s : Store α} (hI : Inv s) (e : Ev α) (he : e ≠ .step) (r : R s) :
    R (sgdEvG step s e) := by
  obtain ⟨h1, h2, h3⟩ := engine_opt step s e he
  refine hR (engine_moves step s e he).ext (by rw [h1]) (by rw [h2]) (by rw [h3]) ?_ r
  rintro x ⟨j, hj⟩
  exact ⟨fun e => (nomatch (hI.sep .grad j .b1 i x hj e).1), fun e => (nomatch (hI.sep .grad j .b2 i x hj e).1)⟩

theorem gradAt_abs {W : BufId → Prop} {s : Store α} (hI : Inv s) {i k : Nat} (j : Nat)
    (r : PS → Heap α × BufId) (e : Ext W s.heap (gradAt s j r).heap)
    (hW : ∀ x, W x → slot s .grad j = some x) {q : P α} (a : AbsP s i k q) {v : α}
    (hv : j = i → ∀ p, val s.heap p.data k = some q.θ →
      optVal s.heap p.grad k = some q.grad → val (r p).1 (r p).2 k = some v) :
    AbsP (gradAt s j r) i k (if j = i then (if q.rg then { q with grad := some v } else q) else q) := by
  by_cases hj : j = i
  · subst hj
    rw [if_pos rfl]
    obtain ⟨p, hp, hθ, hg, hr⟩ := id a
    unfold gradAt at e ⊢
    rw [hp] at e ⊢
    dsimp only at e ⊢
    rw [← hr]
    split
    · rename_i hrg
      rw [if_pos hrg] at e
      -- the data buffer is no gradient buffer, so the statement did not overwrite it
      have hd : ¬ W p.data := fun w => nomatch (hI.sep .grad j .data j _ (hW _ w) (slot_data_of hp)).1
      exact ⟨_, getElem?_set_of_some _ hp, e.val_kept hd hθ, optVal_some (hv rfl p hθ hg), rfl⟩
    · exact a
  · rw [if_neg hj]
    exact a.frame e ((gradAt_rest s j r).2 i hj) fun x w =>
      ⟨fun h => (nomatch (hI.sep .grad j .data i x (hW x w) h).1), fun h => hj (hI.sep .grad j .grad i x (hW x w) h).2⟩

theorem accumulate_abs [Add α] [Zero α] {s : Store α} (hI : Inv s) {i k : Nat} (j : Nat) (g : List α)
    {gk : α} (hgk : j = i → g[k]? = some gk) {q : P α} (a : AbsP s i k q) :
    AbsP (accumulate s j g) i k (if j = i then Synap.Optim.accumulate q gk else q) := by
  rw [accumulate_eq]
  refine gradAt_abs hI j _ (accumulate_eq s j g ▸ accumulate_moves s j g).ext (fun _ h => h) a
    fun hj p hθ hg => ?_
  rcases optVal_cases hg with ⟨hpg, hqg⟩ | ⟨gb, gv, hpg, hqg, hv⟩
  · rw [hpg, hqg, alloc_snd, val_alloc_new, List.getElem?_zipWith, List.getElem?_map, ← val, hθ, hgk hj]; rfl
  · rw [hpg, hqg]; exact val_writeZipLit s.heap gb _ g k hv (hgk hj)

/-- `h0` is needed when there was no gradient: the code stores `g` itself, the value-level model
    `0 + g` -/
theorem accumulateRoot_abs [Add α] [Zero α] (h0 : ∀ x : α, 0 + x = x) {s : Store α} (hI : Inv s)
    {i k : Nat} (j : Nat) (g : List α) {gk : α} (hgk : j = i → g[k]? = some gk) {q : P α}
    (a : AbsP s i k q) :
    AbsP (accumulateRoot s j g) i k (if j = i then Synap.Optim.accumulate q gk else q) := by
  rw [accumulateRoot_eq]
  refine gradAt_abs hI j _ (accumulateRoot_eq s j g ▸ accumulateRoot_moves s j g).ext (fun _ => False.elim) a
    fun hj p _ hg => ?_
  rcases optVal_cases hg with ⟨hpg, hqg⟩ | ⟨gb, gv, hpg, hqg, hv⟩
  · rw [hpg, hqg, alloc_snd, val_alloc_new, hgk hj]; exact congrArg some (h0 gk).symm
  · rw [hpg, hqg, alloc_snd, val_alloc_new, List.getElem?_zipWith, ← val, hv, hgk hj]; rfl

theorem zeroGradAt_abs [Zero α] {s : Store α} (hI : Inv s) {i k : Nat} (j : Nat) {q : P α}
    (a : AbsP s i k q) : AbsP (zeroGradAt s j) i k (if j = i then Synap.Optim.zeroP q else q) :=
  zeroGradAt_eq s j ▸ gradAt_abs hI j _ (zeroGradAt_eq s j ▸ zeroGradAt_moves s j).ext (fun _ => False.elim) a
    fun _ p hθ _ => by
    rw [allocMap_snd, val_allocMap, hθ]; rfl

theorem foldl_range_at {σ V : Type} (f : σ → Nat → σ) (I : σ → Prop) (R : σ → V → Prop) (T : V → V)
    (i : Nat) (hI : ∀ s j, I s → I (f s j))
    (hne : ∀ s j v, j ≠ i → I s → R s v → R (f s j) v)
    (heq : ∀ s v, I s → R s v → R (f s i) (T v)) :
    ∀ n s v, I s → R s v →
      I ((List.range n).foldl f s) ∧ R ((List.range n).foldl f s) (if i < n then T v else v) := by
  intro n s v h r
  induction n with
  | zero => exact ⟨h, r⟩
  | succ n ih =>
    obtain ⟨h1, r1⟩ := ih
    rw [List.range_succ, List.foldl_append]
    refine ⟨hI _ _ h1, ?_⟩
    rcases Nat.lt_trichotomy i n with hin | rfl | hin
    · rw [if_pos hin] at r1; rw [if_pos (Nat.lt_succ_of_lt hin)]; exact hne _ n _ (Nat.ne_of_gt hin) h1 r1
    · rw [if_neg (Nat.lt_irrefl _)] at r1; rw [if_pos (Nat.lt_succ_self _)]; exact heq _ _ h1 r1
    · rw [if_neg (Nat.lt_asymm hin)] at r1; rw [if_neg (by omega)]; exact hne _ n _ (Nat.ne_of_lt hin) h1 r1

theorem zeroGrad_abs [Zero α] {s : Store α} (hI : Inv s) {i k : Nat} {q : P α} (a : AbsP s i k q) :
    AbsP (zeroGrad s) i k (Synap.Optim.zeroP q) := by
  have := foldl_range_at zeroGradAt Inv (fun s (q : P α) => AbsP s i k q) Synap.Optim.zeroP i
    (fun s j h => (zeroGradAt_moves s j).inv h)
    (fun s j v hj h r => by have := zeroGradAt_abs h j r; rwa [if_neg hj] at this)
    (fun s v h r => by have := zeroGradAt_abs h i r; rwa [if_pos rfl] at this) s.ps.length s q hI a
  rw [if_pos (absP_lt a)] at this
  exact this.2

theorem setRg_abs {s : Store α} {i k : Nat} (j : Nat) (r : Bool) {q : P α} (a : AbsP s i k q) :
    AbsP (setRg s j r) i k (if j = i then { q with rg := r } else q) := by
  obtain ⟨p, hp, hθ, hg, hr⟩ := a
  by_cases hji : j = i
  · subst hji
    rw [if_pos rfl, setRg, hp]
    exact ⟨_, getElem?_set_of_some _ hp, hθ, hg, rfl⟩
  · rw [if_neg hji]
    unfold setRg
    split
    · exact ⟨p, hp, hθ, hg, hr⟩
    · exact ⟨p, (List.getElem?_set_ne hji).trans hp, hθ, hg, hr⟩

/-- `sgdStepP` / `adamStepP` of the model with the update as a parameter.  It stands here, under the
    name the statements of `Props.C08` use, because `StepLoop.refines` speaks of it. -/
def _root_.Props.C08.stepP {α β : Type} (upd : α → α → β → α × β) (p : P α) (b : β) : P α × β :=
  match p.rg, p.grad with
  | true, some g => ({ p with θ := (upd p.θ g b).1 }, (upd p.θ g b).2)
  | _, _ => (p, b)

open Props.C08 (stepP)

/-- `f s i` is the body of the loop of `step` for parameter `i`; `R s b` says that the optimizer
    state of element `k` of parameter `i` is `b`.  Once the array statements of the body compute
    `upd` on element `k` of an active parameter, the whole `step` acts on (`AbsP`, `R`) as the
    value-level `stepP upd`. -/
theorem StepLoop.refines {β : Type} {f : Store α → Nat → Store α} {Rr : Role → Prop}
    (h : StepLoop f Rr) (upd : α → α → β → α × β) (R : Store α → β → Prop) {i k : Nat}
    (hR : ∀ b, OptRel i (fun s => R s b))
    (active : ∀ {s}, Inv s → ∀ p gb θ gv b, s.ps[i]? = some p → p.rg = true → p.grad = some gb →
        gb ≠ p.data → val s.heap p.data k = some θ → val s.heap gb k = some gv → R s b →
        val (f s i).heap p.data k = some (upd θ gv b).1 ∧ R (f s i) (upd θ gv b).2)
    {s : Store α} (hI : Inv s) {q : P α} {b : β} (a : AbsP s i k q) (r : R s b) :
    AbsP ((List.range s.ps.length).foldl f s) i k (stepP upd q b).1 ∧
    R ((List.range s.ps.length).foldl f s) (stepP upd q b).2 := by
  have := foldl_range_at f Inv (fun s (v : P α × β) => AbsP s i k v.1 ∧ R s v.2)
    (fun v => stepP upd v.1 v.2) i (fun s j hI => (h.moves s j).inv hI) ?_ ?_ s.ps.length s (q, b) hI ⟨a, r⟩
  · rw [if_pos (absP_lt a)] at this
    exact this.2
  · -- the bodies for the other parameters frame parameter `i`
    intro s j v hj hI r
    -- the data buffer of parameter `j` is none of the buffers of parameter `i`
    have other : ∀ x, Active s j x → ∀ ro, slot s ro i ≠ some x := by
      rintro x ⟨p, gb, hp, -, -, rfl⟩ ro e
      exact hj (hI.sep .data j ro i p.data (slot_data_of hp) e).2
    obtain ⟨o1, o2, o3⟩ := (h.rest s j).2 i hj
    exact ⟨r.1.frame (h.moves s j).ext (by rw [(h.rest s j).1]) fun x w => ⟨other x w _, other x w _⟩,
      hR v.2 (h.moves s j).ext o1 o2 o3 (fun x w => ⟨other x w _, other x w _⟩) r.2⟩
  · -- the body for parameter `i` itself; `stepP` computes once the flag and the gradient are known,
    -- and on an inactive parameter nothing happens on either side
    rintro s ⟨⟨θ, g, rg⟩, b⟩ hI ⟨a, r⟩
    obtain ⟨p, hp, hθ, hg, hr⟩ := id a
    cases rg with
    | false => rw [h.idle s i (not_active hp (Or.inl hr))]; exact ⟨a, r⟩
    | true =>
    rcases optVal_cases hg with ⟨hpg, rfl⟩ | ⟨gb, gv, hpg, rfl, hv⟩
    · rw [h.idle s i (not_active hp (Or.inr hpg))]; exact ⟨a, r⟩
    · have hne : gb ≠ p.data := fun e =>
        nomatch (hI.sep .grad i .data i gb (by rw [slot_grad_of hp, hpg]) (e ▸ slot_data_of hp)).1
      obtain ⟨h1, h2⟩ := active hI p gb θ gv b hp hr hpg hne hθ hv r
      -- the gradient buffer is not the data of an active parameter: the body keeps it
      have hk : ¬ Active s i gb := by
        rintro ⟨p', _, hp', -, -, e⟩
        rw [hp] at hp'; cases hp'; exact hne e.symm
      refine ⟨⟨p, (h.rest s i).1 ▸ hp, h1, ?_, hr⟩, h2⟩
      rw [hpg]
      exact optVal_some ((h.moves s i).ext.val_kept hk hv)

section SGD
variable [Add α] [Sub α] [Mul α] [One α]
set_option linter.unusedSectionVars false

theorem sgdGrad_val (c : SGDCfg α) (h : Heap α) (d gb : BufId) (k : Nat) {θ gv : α}
    (vθ : val h d k = some θ) (vg : val h gb k = some gv) :
    val (sgdGrad c h d gb).1 (sgdGrad c h d gb).2 k
      = some (if c.useWd then gv + c.weightDecay * θ else gv) :=
  val_ite _ (val_allocZip h _ gb d k vg vθ) vg

theorem sgdBuf_true_val (c : SGDCfg α) (h : Heap α) (g : BufId) (ob : Option BufId) (k : Nat)
    {gv : α} {bo : Option α} (vg : val h g k = some gv) (vb : optVal h ob k = some bo) :
    val (sgdBuf true c h g ob).1 (sgdBuf true c h g ob).2 k
      = some (match bo with
        | some b => c.momentum * b + (1 - c.dampening) * gv
        | none => gv) := by
  unfold sgdBuf
  rcases optVal_cases vb with ⟨rfl, rfl⟩ | ⟨b, bv, rfl, rfl, hv⟩
  · simp only [if_true]
    rw [allocMap_snd, val_allocMap, vg]; rfl
  · exact val_allocZip h _ b g k hv vg

theorem sgdDir_val (c : SGDCfg α) (h : Heap α) (g b : BufId) (k : Nat) {gv bv : α}
    (vg : val h g k = some gv) (vb : val h b k = some bv) :
    val (sgdDir c h g b).1 (sgdDir c h g b).2 k = some (if c.nesterov then gv + c.momentum * bv else bv) :=
  val_ite _ (val_allocZip h _ g b k vg vb) vb

theorem sgdApply_val (c : SGDCfg α) (h : Heap α) (d g : BufId) (k : Nat) {θ gv : α}
    (vθ : val h d k = some θ) (vg : val h g k = some gv) :
    val (sgdApply c h d g) d k = some (if c.maximize then θ + c.lr * gv else θ - c.lr * gv) :=
  val_writeZip h d _ g k vθ vg

theorem sgdStep_abs (c : SGDCfg α) {s : Store α} {i k : Nat} {q : P α} {b : Option α}
    (hI : Inv s) (a : AbsP s i k q) (ab : AbsB s i k b) :
    AbsP (sgdStep c s) i k (stepP (Synap.Optim.sgdUpdate c) q b).1 ∧
    AbsB (sgdStep c s) i k (stepP (Synap.Optim.sgdUpdate c) q b).2 := by
  refine (sgd_loop c).refines (Synap.Optim.sgdUpdate c) (fun s b => AbsB s i k b) (absB_optRel i k) ?_ hI a ab
  rintro s hI p gb θ gv b hp hrg hgr - vθ vg ⟨ob, hob, vb⟩
  have hsb := slot_b1_of hob
  rw [sgdStepAt_active c hp hrg hgr, hsb]
  extract_lets r1 r2 r3
  unfold Synap.Optim.sgdUpdate
  -- the array statements compute `sgdUpdate` on element `k`, one after the other
  have e1 : Ext (fun _ => False) s.heap r1.1 := sgdGrad_ext c s.heap p.data gb
  have g1 : val r1.1 r1.2 k = _ := sgdGrad_val c s.heap p.data gb k vθ vg
  have θ1 := e1.val_kept id vθ
  cases c.useMom with
  | false =>
    -- the buffer place is not rebound, and its buffer is not the data buffer
    exact ⟨sgdApply_val c r1.1 p.data r1.2 k θ1 g1, ob, hob,
      (e1.weaken.trans (sgdApply_ext c r1.1 p.data r1.2)).optVal_kept
        (fun x hx e => nomatch (hI.sep .b1 i .data i _ (hsb.trans hx) (e ▸ slot_data_of hp)).1) vb⟩
  | true =>
    have e2 : Ext (fun _ => False) r1.1 r2.1 := sgdBuf_ext true c r1.1 r1.2 ob
    have g2 : val r2.1 r2.2 k = _ := sgdBuf_true_val c r1.1 r1.2 ob k g1 (e1.optVal_kept (fun _ _ => id) vb)
    have e3 : Ext (fun _ => False) r2.1 r3.1 := sgdDir_ext c r2.1 r1.2 r2.2
    have g3 : val r3.1 r3.2 k = _ := sgdDir_val c r2.1 r1.2 r2.2 k (e2.val_kept id g1) g2
    have v := sgdApply_val c r3.1 p.data r3.2 k (e3.val_kept id (e2.val_kept id θ1)) g3
    -- the new buffer was allocated when the data buffer already existed
    have nd : ¬ r2.2 = p.data := fun e =>
      Nat.ne_of_lt (val_lt θ1) ((e.symm.trans (sgdBuf_true_snd c r1.1 r1.2 ob)))
    have vb' := optVal_some ((sgdApply_ext c r3.1 p.data r3.2).val_kept nd (e3.val_kept id g2))
    cases b <;> exact ⟨v, some _, getElem?_set_of_some _ hob, vb'⟩

end SGD

open Synap.Optim (adamUpdate)

/-- the moments of parameter `i` at element `k` (a moment that is still the integer 0 reads as 0) -/
def AbsMo [Zero α] (s : Store α) (i k : Nat) (mo : Moments α) : Prop :=
  ∃ o1 o2 v1 v2, s.b1[i]? = some o1 ∧ s.b2[i]? = some o2 ∧ s.steps[i]? = some mo.t ∧
    optVal s.heap o1 k = some v1 ∧ optVal s.heap o2 k = some v2 ∧ mo.m1 = v1.getD 0 ∧ mo.m2 = v2.getD 0

theorem absMo_optRel [Zero α] (i k : Nat) (mo : Moments α) : OptRel i (fun s : Store α => AbsMo s i k mo) := by
  rintro W s s' e h1 h2 h3 hW ⟨o1, o2, v1, v2, hb1, hb2, hst, hv1, hv2, e1, e2⟩
  exact ⟨o1, o2, v1, v2, h1.trans hb1, h2.trans hb2, h3.trans hst,
    e.optVal_kept (fun x hx w => (hW x w).1 (hx ▸ slot_b1_of hb1)) hv1,
    e.optVal_kept (fun x hx w => (hW x w).2 (hx ▸ slot_b2_of hb2)) hv2, e1, e2⟩

section Adam
variable [Add α] [Sub α] [Mul α] [Div α] [Neg α] [Zero α] [One α] [HPow α Nat α] [HasSqrt α]
set_option linter.unusedSectionVars false

/-- the result of an allocating statement run when `d` existed is `d` only if its input was -/
theorem adamNeg_val (c : AdamCfg α) (h : Heap α) (gb d : BufId) (k : Nat) {gv θ : α}
    (vg : val h gb k = some gv) (vθ : val h d k = some θ) (hne : gb ≠ d) :
    val (adamNeg c h gb).1 (adamNeg c h gb).2 k = some (if c.maximize then -gv else gv)
    ∧ (adamNeg c h gb).2 ≠ d := by
  unfold adamNeg
  cases c.maximize
  · exact ⟨vg, hne⟩
  · refine ⟨?_, Nat.ne_of_gt (val_lt vθ)⟩
    simp only [if_true, allocMap_snd]
    rw [val_allocMap, vg]; rfl

theorem adamDecay_val (c : AdamCfg α) (h : Heap α) (d g : BufId) (k : Nat) {θ gv : α} (hne : g ≠ d)
    (vθ : val h d k = some θ) (vg : val h g k = some gv) :
    val (adamDecay c h d g).1 d k = some (if c.decoupled then θ - c.lr * c.weightDecay * θ else θ)
    ∧ val (adamDecay c h d g).1 (adamDecay c h d g).2 k
        = some (if !c.decoupled && c.useWd
                then gv + c.weightDecay * (if c.decoupled then θ - c.lr * c.weightDecay * θ else θ) else gv) := by
  unfold adamDecay
  cases c.decoupled with
  | true => exact ⟨val_writeMap h d _ k vθ, (ext_writeMap h d _).val_kept hne vg⟩
  | false =>
    cases c.useWd with
    | false => exact ⟨vθ, vg⟩
    | true => exact ⟨(ext_allocZip h _ g d).val_kept id vθ, val_allocZip h _ g d k vg vθ⟩

theorem adamM1_val (c : AdamCfg α) (h : Heap α) (g : BufId) (ob : Option BufId) (k : Nat)
    {gv : α} {bo : Option α} (vg : val h g k = some gv) (vb : optVal h ob k = some bo) :
    val (adamM1 c h g ob).1 (adamM1 c h g ob).2 k = some (c.beta1 * bo.getD 0 + (1 - c.beta1) * gv) := by
  unfold adamM1
  rcases optVal_cases vb with ⟨rfl, rfl⟩ | ⟨b, bv, rfl, rfl, hv⟩
  · dsimp only
    rw [allocMap_snd, val_allocMap, vg]; rfl
  · exact val_allocZip h _ b g k hv vg

theorem adamM2_val (c : AdamCfg α) (h : Heap α) (g : BufId) (ob : Option BufId) (k : Nat)
    {gv : α} {bo : Option α} (vg : val h g k = some gv) (vb : optVal h ob k = some bo) :
    val (adamM2 c h g ob).1 (adamM2 c h g ob).2 k = some (c.beta2 * bo.getD 0 + (1 - c.beta2) * (gv * gv)) := by
  unfold adamM2
  rcases optVal_cases vb with ⟨rfl, rfl⟩ | ⟨b, bv, rfl, rfl, hv⟩
  · dsimp only
    rw [allocMap_snd, val_allocMap, vg]; rfl
  · exact val_allocZip h _ b g k hv vg

theorem adamApply_val (c : AdamCfg α) (t : Nat) (h : Heap α) (d m1 m2 : BufId) (k : Nat) {θ a b : α}
    (vθ : val h d k = some θ) (v1 : val h m1 k = some a) (v2 : val h m2 k = some b) :
    val (adamApply c t h d m1 m2) d k
      = some (θ - (c.lr * (a / (1 - c.beta1 ^ t))) / (HasSqrt.sqrt (b / (1 - c.beta2 ^ t)) + c.eps)) :=
  val_writeZip _ d _ _ k ((ext_allocZip h _ m1 m2).val_kept id vθ) (val_allocZip h _ m1 m2 k v1 v2)

theorem adamStep_abs (c : AdamCfg α) {s : Store α} {i k : Nat} {q : P α} {mo : Moments α}
    (hI : Inv s) (a : AbsP s i k q) (am : AbsMo s i k mo) :
    AbsP (adamStep c s) i k (stepP (adamUpdate c) q mo).1 ∧
    AbsMo (adamStep c s) i k (stepP (adamUpdate c) q mo).2 := by
  refine (adam_loop c).refines (adamUpdate c) (fun s mo => AbsMo s i k mo) (absMo_optRel i k) ?_ hI a am
  rintro s hI p gb θ gv ⟨_, _, t⟩ hp hrg hgr hne vθ vg ⟨o1, o2, w1, w2, hb1, hb2, hst, v1, v2, rfl, rfl⟩
  have hd := slot_data_of hp
  have hsb1 := slot_b1_of hb1
  have hsb2 := slot_b2_of hb2
  have n1 : ∀ x, o1 = some x → ¬ x = p.data := fun x hx e =>
    nomatch (hI.sep .b1 i .data i _ (hsb1.trans hx) (e ▸ hd)).1
  have n2 : ∀ x, o2 = some x → ¬ x = p.data := fun x hx e =>
    nomatch (hI.sep .b2 i .data i _ (hsb2.trans hx) (e ▸ hd)).1
  rw [adamStepAt_active c hp hrg hgr, hsb1, hsb2, hst]
  extract_lets t' r1 r2 m1 m2
  -- the array statements compute `adamUpdate` on element `k`, one after the other
  have e1 : Ext (fun _ => False) s.heap r1.1 := adamNeg_ext c s.heap gb
  obtain ⟨g1, ne1⟩ := adamNeg_val c s.heap gb p.data k vg vθ hne
  have e2 : Ext (· = p.data) r1.1 r2.1 := adamDecay_ext c r1.1 p.data r1.2
  obtain ⟨θ2, g2⟩ := adamDecay_val c r1.1 p.data r1.2 k ne1 (e1.val_kept id vθ) g1
  have e12 := e1.weaken.trans e2
  have e3 : Ext (fun _ => False) r2.1 m1.1 := adamM1_ext c r2.1 r2.2 o1
  have g3 : val m1.1 m1.2 k = _ := adamM1_val c r2.1 r2.2 o1 k g2 (e12.optVal_kept n1 v1)
  have e4 : Ext (fun _ => False) m1.1 m2.1 := adamM2_ext c m1.1 r2.2 o2
  have g4 : val m2.1 m2.2 k = _ := adamM2_val c m1.1 r2.2 o2 k (e3.val_kept id g2)
    (e3.optVal_kept (fun _ _ => id) (e12.optVal_kept n2 v2))
  have g3' := e4.val_kept id g3
  have θ3 := e3.val_kept id θ2
  have e5 := adamApply_ext c t' m2.1 p.data m1.2 m2.2
  have v5 := adamApply_val c t' m2.1 p.data m1.2 m2.2 k (e4.val_kept id θ3) g3' g4
  -- the two moments are fresh buffers, allocated when the data buffer already existed
  have nd1 : ¬ m1.2 = p.data := fun e => Nat.ne_of_gt (val_lt θ2) ((adamM1_snd c r2.1 r2.2 o1).symm.trans e)
  have nd2 : ¬ m2.2 = p.data := fun e => Nat.ne_of_gt (val_lt θ3) ((adamM2_snd c m1.1 r2.2 o2).symm.trans e)
  exact ⟨v5, some _, some _, some _, some _,
    getElem?_set_of_some _ hb1, getElem?_set_of_some _ hb2, getElem?_set_of_some _ hst,
    optVal_some (e5.val_kept nd1 g3'), optVal_some (e5.val_kept nd2 g4), rfl, rfl⟩

end Adam

end Proofs.OptimStore
