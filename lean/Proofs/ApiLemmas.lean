import SynapModel.Ops
import Proofs.EngineStruct
import Proofs.ApiBasic
/-!
# Buffer invariants through `Engine.backward`; `applyOp` / `Ops.apply` in closed form

`BufInv R ns`: every present gradient buffer of a node is `R`-related to the node's `zero` field.  Each phase of `backward`
keeps it when `R z z` and `R z a → R z (a + b)`: buffers are only ever set to `zero`, to `old + _`, or (the root) to the
caller's gradient.  Props/C10 takes equality of shapes for `R`.
-/
namespace Proofs.Api
open Synap Synap.NDArray Synap.Api Synap.Ops Synap.Engine Proofs.Engine

section Buf
variable {G : Type}

def BufInv (R : G → G → Prop) (ns : Graph G) : Prop :=
  ∀ (i : Nat) (n : Node G) (g : G), ns[i]? = some n → n.grad = some g → R n.zero g

theorem bufInv_setGrad {R : G → G → Prop} {ns : Graph G} (h : BufInv R ns) (i : Nat) (x : Option G)
    (hx : ∀ n y, ns[i]? = some n → x = some y → R n.zero y) : BufInv R (setGrad ns i x) := by
  intro k n g hk hg
  rw [getElem?_setGrad, Option.map_eq_some_iff] at hk
  obtain ⟨m, hm, rfl⟩ := hk
  by_cases e : k = i
  · rw [if_pos e] at hg ⊢
    exact hx m g (e ▸ hm) hg
  · rw [if_neg e] at hg ⊢
    exact h k m g hm hg

theorem bufInv_enc {R : G → G → Prop} (hz : ∀ z, R z z) (s : DfsSt G) (c : Nat) (h : BufInv R s.ns) :
    BufInv R (enc s c).ns := by
  rcases enc_cases s c with e | ⟨n, hn, _, e⟩ <;> rw [e]
  · exact h
  · refine bufInv_setGrad h c _ ?_
    intro m y hm hy
    rw [hn] at hm; cases hm; cases hy
    exact hz _

theorem bufInv_releaseStep {R : G → G → Prop} (root : Nat) (rA : Bool) (v : Nat) (n : Node G)
    (p : Graph G × List TrEv) (hi : BufInv R p.1) : BufInv R (releaseStep root rA v n p).1 := by
  unfold releaseStep; split
  · exact bufInv_setGrad hi v none (fun _ _ _ hy => by cases hy)
  · exact hi

variable [Add G]

theorem bufInv_accumulate {R : G → G → Prop} (hadd : ∀ z a b, R z a → R z (a + b))
    (ns : Graph G) (cs : List Nat) (gs : List (Option G)) (ns' : Graph G)
    (h : accumulate ns cs gs = some ns') (hi : BufInv R ns) : BufInv R ns' := by
  fun_induction accumulate ns cs gs generalizing ns' with
  | case1 ns c cs g gs n hc hr old hold ih =>
    refine ih ns' h (bufInv_setGrad hi c _ ?_)
    intro m y hm hy
    rw [hc] at hm; cases hm; cases hy
    exact hadd _ _ _ (hi c n old hc hold)
  | case2 => cases h
  | case3 ns c cs g gs n hc hr ih => exact ih ns' h hi
  | case4 => cases h
  | case5 ns c cs gs ih => exact ih ns' h hi
  | case6 t ns x h1 h2 => cases h; exact hi

theorem bufInv_backStep {R : G → G → Prop} (hadd : ∀ z a b, R z a → R z (a + b))
    {ns : Graph G} {v : Nat} {n : Node G} {tr : List TrEv} {p : Graph G × List TrEv}
    (h : backStep ns v n tr = some p) (hi : BufInv R ns) : BufInv R p.1 := by
  rcases backStep_inv h with ⟨-, rfl⟩ | ⟨f, g, l, ns', -, -, -, hacc, rfl⟩
  · exact hi
  · exact bufInv_accumulate hadd _ _ _ _ hacc hi

theorem bufInv_sweep {R : G → G → Prop} (hadd : ∀ z a b, R z a → R z (a + b)) (root : Nat) (rA : Bool)
    (L : List Nat) (ns : Graph G) (tr : List TrEv) (ns' : Graph G) (tr' : List TrEv)
    (h : sweep root rA L ns tr = some (ns', tr')) : BufInv R ns → BufInv R ns' :=
  sweep_induct (motive := fun _ ns _ res => BufInv R ns → BufInv R res.1) (fun _ _ hi => hi)
    (fun v _ _ _ n p _ _ hb ih hi => ih (bufInv_releaseStep root rA v n p (bufInv_backStep hadd hb hi)))
    L ns tr (ns', tr') h

theorem bufInv_backward {R : G → G → Prop} (hz : ∀ z, R z z) (hadd : ∀ z a b, R z a → R z (a + b))
    (ns : Graph G) (root : Nat) (g : G) (rA : Bool) (ns' : Graph G) (tr : List TrEv)
    (h : Engine.backward ns root g rA = some (ns', tr)) (hi : BufInv R ns)
    (hg : ∀ r, ns[root]? = some r → R r.zero g) : BufInv R ns' := by
  obtain ⟨r, hr, -, h⟩ := backward_inv h
  have hv : BufInv R (traverse ns root).ns := visit_ns_inv (bufInv_enc hz) _ _ _ hi
  refine bufInv_sweep hadd root rA _ _ _ _ _ h (bufInv_setGrad hv root _ ?_)
  intro r' y hr' hy
  cases hy
  obtain ⟨m, hm, hst⟩ := (traverse_skel ns root).get hr
  rw [hr'] at hm; cases hm
  have hgr : R r'.zero g := by rw [zero_of_strip hst]; exact hg r hr
  unfold rootVal
  simp only [hr']
  cases hl : r'.isLeaf <;> cases hgd : r'.grad <;> simp only
  · exact hgr
  · exact hgr
  · exact hgr
  · exact hadd _ _ _ (hv root r' _ hr' hgd)

end Buf

section ApiS
variable {α : Type} [Zero α]

theorem zeros_shape (s : Shape) : (zeros s : NDArray α).shape = s := rfl

/-- the step of the fold in `applyOp` -/
def applyOpStep (inputs : List Nat) (dt : DType) (rg : Bool) (acc : TState α × List Nat) (o : OpOut α) :
    Option (TState α × List Nat) :=
  (mkTensor acc.1 o.value dt rg inputs (some o.back)).bind (fun p => some (p.1, acc.2 ++ [p.2]))

/-- `any(operands require grad)` -/
def rgOf (st : TState α) (inputs : List Nat) : Bool :=
  (inputs.map (fun i => match st.g[i]? with | some n => n.reqGrad | none => false)).any id

/-- the fold of `applyOp` in closed form: no step changes the modes, so the guard of `mkTensor` is the same at
    every step, and either the first output is refused or every output is appended -/
theorem applyOp_fold_eq (inputs : List Nat) (dt : DType) (rg : Bool) (outs : List (OpOut α)) (st : TState α) (ks : List Nat) :
    outs.foldlM (applyOpStep inputs dt rg) (st, ks) =
      if outs ≠ [] ∧ (rg && st.modes.grad && !dt.isFloat) = true then none
      else some ({ st with g := st.g ++ outs.map (fun o => mkNode st o.value rg inputs (some o.back)),
                           vals := st.vals ++ outs.map (·.value),
                           dtypes := st.dtypes ++ List.replicate outs.length dt },
                 ks ++ List.range' st.g.length outs.length) := by
  induction outs generalizing st ks with
  | nil => simp
  | cons o os ih =>
    rw [List.foldlM_cons, applyOpStep, mkTensor_eq]
    by_cases hc : (rg && st.modes.grad && !dt.isFloat) = true
    · rw [if_pos hc, if_pos ⟨List.cons_ne_nil _ _, hc⟩]
      rfl
    · rw [if_neg hc, Option.bind_some, Option.bind_eq_bind, Option.bind_some, ih,
        if_neg (fun h => hc h.2), if_neg (fun h => hc h.2)]
      simp only [List.append_assoc, List.length_append]
      -- `mkNode` reads nothing of the store but the modes
      rfl

end ApiS

section OpsS
variable {α : Type} [Zero α] [One α] [Add α] [Sub α] [Mul α] [Div α] [Neg α] [NatCast α]
  [OfScientific α] [LT α] [DecidableLT α] [LE α] [DecidableLE α] [Transc α]

/-- the dtype `Ops.apply` gives its results -/
abbrev dtOf (st : TState α) (inputs : List Nat) : DType :=
  resultDType (inputs.filterMap (fun i => st.dtypes[i]?))

theorem apply_eq (st : TState α) (op : Op α) (inputs : List Nat) :
    Ops.apply st op inputs =
      (inputs.mapM (fun i => st.vals[i]?)).bind fun ins => (evalOp op ins).bind fun outs =>
        if outs ≠ [] ∧ (rgOf st inputs && st.modes.grad && !(dtOf st inputs).isFloat) = true then none
        else some ({ st with g := st.g ++ outs.map (fun o => mkNode st o.value (rgOf st inputs) inputs (some o.back)),
                             vals := st.vals ++ outs.map (·.value),
                             dtypes := st.dtypes ++ List.replicate outs.length (dtOf st inputs) },
                   List.range' st.g.length outs.length) := by
  show (inputs.mapM (fun i => st.vals[i]?)).bind (fun ins => (evalOp op ins).bind fun outs =>
    outs.foldlM (applyOpStep inputs (dtOf st inputs) (rgOf st inputs)) (st, [])) = _
  simp only [applyOp_fold_eq, List.nil_append]

theorem apply_inv {st st' : TState α} {op : Op α} {inputs ks : List Nat}
    (h : Ops.apply st op inputs = some (st', ks)) :
    ∃ ins outs, inputs.mapM (fun i => st.vals[i]?) = some ins ∧ evalOp op ins = some outs ∧
      (outs ≠ [] → (rgOf st inputs && st.modes.grad && !(dtOf st inputs).isFloat) = false) ∧
      ks = List.range' st.g.length outs.length ∧
      st' = { st with g := st.g ++ outs.map (fun o => mkNode st o.value (rgOf st inputs) inputs (some o.back)),
                      vals := st.vals ++ outs.map (·.value),
                      dtypes := st.dtypes ++ List.replicate outs.length (dtOf st inputs) } := by
  rw [apply_eq] at h
  obtain ⟨ins, h1, h⟩ := Option.bind_eq_some_iff.mp h
  obtain ⟨outs, h2, h⟩ := Option.bind_eq_some_iff.mp h
  obtain ⟨hc, h⟩ := Option.ite_none_left_eq_some.mp h
  cases h
  exact ⟨ins, outs, h1, h2, fun hne => Bool.eq_false_iff.mpr fun e => hc ⟨hne, e⟩, rfl, rfl⟩

theorem mapM_opt_congr {β γ : Type} {f g : β → Option γ} (l : List β) (h : ∀ i ∈ l, f i = g i) :
    l.mapM f = l.mapM g := by
  induction l with
  | nil => rfl
  | cons a l ih =>
    rw [List.mapM_cons, List.mapM_cons, h a List.mem_cons_self, ih (fun i hi => h i (List.mem_cons_of_mem _ hi))]

theorem filterMap_congr_mem {β γ : Type} {f g : β → Option γ} (l : List β) (h : ∀ i ∈ l, f i = g i) :
    l.filterMap f = l.filterMap g := by
  induction l with
  | nil => rfl
  | cons a l ih =>
    rw [List.filterMap_cons, List.filterMap_cons, h a List.mem_cons_self,
      ih (fun i hi => h i (List.mem_cons_of_mem _ hi))]

theorem map_getElem?_range'_append {β : Type} (a b : List β) (s m : Nat) (ha : a.length = s)
    (hb : b.length = m) : (List.range' s m).map (fun k => (a ++ b)[k]?) = b.map some := by
  subst ha; subst hb
  apply List.ext_getElem?
  intro j
  by_cases hj : j < b.length
  · simp [hj]
  · simp [hj]

end OpsS
end Proofs.Api
