import Proofs.AdjointBroadcast
import Proofs.AdjointPerm
import Proofs.SumLemmas
import Mathlib.Tactic.Ring
/-!
# Matrix product with batch broadcasting: index bookkeeping and the two transposes
-/
namespace Proofs.Adjoint
open Synap Synap.NDArray Synap.Np Synap.Kernels Proofs.Core

theorem sum_allIdx_append {M : Type} [AddCommMonoid M] (s t : Shape) (f : Idx → M) :
    ((allIdx (s ++ t)).map f).sum
      = ((allIdx s).map (fun p => ((allIdx t).map (fun q => f (p ++ q))).sum)).sum := by
  induction s generalizing f with
  | nil => rw [Proofs.ConvTools.sum_allIdx_nil]; rfl
  | cons n s ih =>
    rw [List.cons_append, Proofs.ConvTools.sum_allIdx_cons, Proofs.ConvTools.sum_allIdx_cons]
    exact Finset.sum_congr rfl fun a _ => ih _

theorem validIdx_append (s t : Shape) (p q : Idx) (hp : validIdx s p) (hq : validIdx t q) :
    validIdx (s ++ t) (p ++ q) := by
  rw [validIdx_iff_forall₂] at *
  exact List.rel_append hp hq

theorem validIdx_two (n m i l : Nat) (hi : i < n) (hl : l < m) : validIdx [n, m] [i, l] :=
  ⟨hi, hl, trivial⟩

theorem bcastIdx_append (s t : Shape) (p q : Idx) (hl : s.length ≤ p.length) (hq : validIdx t q) :
    bcastIdx (s ++ t) (p ++ q) = bcastIdx s p ++ q := by
  unfold bcastIdx
  rw [List.length_append, List.length_append, validIdx_length t q hq, Nat.add_sub_add_right,
    List.drop_append_of_le_length (Nat.sub_le _ _),
    List.zipWith_append (by rw [List.length_drop, Nat.sub_sub_self hl]), zipWith_bc_self t q hq]

theorem forall₂_bc_append {m : Nat} {s batch : Shape} (h : List.Forall₂ BcOK (List.replicate m 1 ++ s) batch)
    (t : Shape) : List.Forall₂ BcOK (List.replicate m 1 ++ (s ++ t)) (batch ++ t) := by
  rw [← List.append_assoc]
  exact List.rel_append h (List.forall₂_same.2 fun _ _ => Or.inl rfl)

theorem permute_swapPerm_last (p : List Nat) (x y : Nat) :
    permute (p ++ [x, y]) (swapPerm (p.length + 2) p.length (p.length + 1)) = p ++ [y, x] := by
  have hl : (p ++ [x, y]).length = p.length + 2 := List.length_append
  have := Proofs.SpecOps.permute_swapPerm (p ++ [x, y]) p.length (p.length + 1)
  rw [hl] at this
  exact this.trans (Proofs.SpecOps.swapAt_last p x y)

theorem normAxis_neg_two (c : Nat) : normAxis (c + 2) (-2) = some c :=
  SpecOps.normAxis_negSucc (c + 2) 1 (Nat.lt_add_left c Nat.one_lt_two)

theorem normAxis_neg_one (c : Nat) : normAxis (c + 2) (-1) = some (c + 1) :=
  SpecOps.normAxis_negSucc (c + 2) 0 (Nat.succ_pos _)

/-- the trailing two entries and the rest of `p ++ [x, y]`, in the form `matmul` reads them -/
theorem split_two (p : List Nat) (x y : Nat) :
    (p ++ [x, y]).take ((p ++ [x, y]).length - 2) = p ∧
    (p ++ [x, y]).getD ((p ++ [x, y]).length - 2) 0 = x ∧
    (p ++ [x, y]).getD ((p ++ [x, y]).length - 1) 0 = y := by
  have l : (p ++ [x, y]).length = p.length + 2 := List.length_append
  rw [l, Nat.add_sub_cancel, show p.length + 2 - 1 = p.length + 1 from rfl,
    List.take_left' rfl, List.getD_append_right _ _ _ _ (Nat.le_refl _),
    List.getD_append_right _ _ _ _ (Nat.le_succ _), Nat.succ_sub (Nat.le_refl _), Nat.sub_self]
  exact ⟨rfl, rfl, rfl⟩

theorem eq_take_append_two (s : List Nat) (h : 2 ≤ s.length) :
    s = s.take (s.length - 2) ++ [s.getD (s.length - 2) 0, s.getD (s.length - 1) 0] := by
  rcases List.eq_nil_or_concat s with rfl | ⟨s', y, rfl⟩
  · cases h
  rcases List.eq_nil_or_concat s' with rfl | ⟨p, x, rfl⟩
  · cases Nat.not_succ_le_self _ h
  · rw [List.concat_eq_append, List.concat_eq_append, List.append_assoc]
    obtain ⟨h1, h2, h3⟩ := split_two p x y
    exact (congrArg₂ (· ++ ·) h1 (congrArg₂ (fun u v => [u, v]) h2 h3)).symm

section Mm
variable {α : Type} [Zero α]

theorem swapLast_eq [One α] [Add α] [Mul α] [Neg α] (b : NDArray α) (c : Nat) (hb : b.shape.length = c + 2) :
    swapLast b = some (transposeP b (swapPerm (c + 2) c (c + 1))) := by
  simp only [swapLast, swapaxes, hb, normAxis_neg_two, normAxis_neg_one, Option.bind_eq_bind,
    Option.bind_some, Option.pure_def]

theorem shape_transposeP_swapLast (b : NDArray α) (bb : Shape) (k m : Nat) (hb : b.shape = bb ++ [k, m]) :
    (transposeP b (swapPerm (bb.length + 2) bb.length (bb.length + 1))).shape = bb ++ [m, k] :=
  (congrArg (permute · _) hb).trans (permute_swapPerm_last bb k m)

theorem get_transposeP_swapLast (b : NDArray α) (bb : Shape) (k m : Nat) (hb : b.shape = bb ++ [k, m])
    (p : Idx) (l t : Nat) (hp : p.length = bb.length) (hv : validIdx (bb ++ [m, k]) (p ++ [l, t])) :
    (transposeP b (swapPerm (bb.length + 2) bb.length (bb.length + 1))).get (p ++ [l, t]) = b.get (p ++ [t, l]) := by
  rw [transposeP, get_gather _ _ _ _ (by rw [hb, permute_swapPerm_last]; exact hv),
    (swapPerm_pair _ _ _ (Nat.lt_succ_of_lt (Nat.lt_succ_self _)) (Nat.lt_succ_self _)).invPerm_eq, ← hp,
    permute_swapPerm_last]

variable [Add α] [Mul α]

/-- the entry function of `Np.matmul` -/
def mmFn (a b : NDArray α) (ba bb batch : Shape) (k : Nat) (j : Idx) : α :=
  ((List.range k).map (fun t =>
      a.get (bcastIdx ba (j.take batch.length) ++ [getI j batch.length, t]) *
      b.get (bcastIdx bb (j.take batch.length) ++ [t, getI j (batch.length + 1)]))).sum

theorem mmFn_append (a b : NDArray α) (ba bb batch : Shape) (k : Nat) (jb : Idx) (i l : Nat)
    (hl : jb.length = batch.length) :
    mmFn a b ba bb batch k (jb ++ [i, l]) =
      ((List.range k).map (fun t =>
        a.get (bcastIdx ba jb ++ [i, t]) * b.get (bcastIdx bb jb ++ [t, l]))).sum := by
  unfold mmFn getI
  rw [← hl, List.take_left' rfl, List.getD_append_right _ _ _ _ (Nat.le_refl _),
    List.getD_append_right _ _ _ _ (Nat.le_succ _), Nat.succ_sub (Nat.le_refl _), Nat.sub_self]
  rfl

theorem matmul_eq (a b : NDArray α) :
    matmul a b =
      if 2 ≤ a.shape.length ∧ 2 ≤ b.shape.length ∧
          a.shape.getD (a.shape.length - 1) 0 = b.shape.getD (b.shape.length - 2) 0 then
        (broadcastShapes (a.shape.take (a.shape.length - 2)) (b.shape.take (b.shape.length - 2))).map
          fun batch => ofFn (batch ++ [a.shape.getD (a.shape.length - 2) 0, b.shape.getD (b.shape.length - 1) 0])
            (mmFn a b (a.shape.take (a.shape.length - 2)) (b.shape.take (b.shape.length - 2)) batch
              (a.shape.getD (a.shape.length - 1) 0))
      else none := by
  show (if (decide (a.shape.length < 2) || decide (b.shape.length < 2)) = true then none
    else if a.shape.getD (a.shape.length - 1) 0 ≠ b.shape.getD (b.shape.length - 2) 0 then none
    else Option.bind _ _) = _
  by_cases h : 2 ≤ a.shape.length ∧ 2 ≤ b.shape.length ∧
      a.shape.getD (a.shape.length - 1) 0 = b.shape.getD (b.shape.length - 2) 0
  · have h1 : ¬(decide (a.shape.length < 2) || decide (b.shape.length < 2)) = true := by
      simp only [Bool.or_eq_true, decide_eq_true_eq]
      exact fun h' => h'.elim (Nat.not_lt.2 h.1) (Nat.not_lt.2 h.2.1)
    rw [if_pos h, if_neg h1, if_neg (not_not.2 h.2.2)]
    cases broadcastShapes (a.shape.take (a.shape.length - 2)) (b.shape.take (b.shape.length - 2)) <;> rfl
  · rw [if_neg h]
    by_cases h1 : (decide (a.shape.length < 2) || decide (b.shape.length < 2)) = true
    · rw [if_pos h1]
    · rw [if_neg h1, if_pos]
      simp only [Bool.or_eq_true, decide_eq_true_eq] at h1
      exact fun e => h ⟨Nat.not_lt.1 fun h' => h1 (.inl h'), Nat.not_lt.1 fun h' => h1 (.inr h'), e⟩

theorem matmul_inv (a b y : NDArray α) (h : matmul a b = some y) :
    ∃ ba bb batch n k m, a.shape = ba ++ [n, k] ∧ b.shape = bb ++ [k, m] ∧
      broadcastShapes ba bb = some batch ∧ y.shape = batch ++ [n, m] := by
  rw [matmul_eq] at h
  split_ifs at h with hc
  obtain ⟨batch, hbc, rfl⟩ := Option.map_eq_some_iff.1 h
  exact ⟨_, _, batch, _, _, _, eq_take_append_two a.shape hc.1, hc.2.2 ▸ eq_take_append_two b.shape hc.2.1, hbc, rfl⟩

theorem matmul_some (a b : NDArray α) (ba bb batch : Shape) (n k m : Nat) (ha : a.shape = ba ++ [n, k])
    (hb : b.shape = bb ++ [k, m]) (hbc : broadcastShapes ba bb = some batch) :
    matmul a b = some (ofFn (batch ++ [n, m]) (mmFn a b ba bb batch k)) := by
  obtain ⟨a1, a2, a3⟩ := split_two ba n k
  obtain ⟨b1, b2, b3⟩ := split_two bb k m
  rw [matmul_eq, ha, hb, a1, a2, a3, b1, b2, b3, hbc, if_pos]
  · rfl
  · exact ⟨by rw [List.length_append]; exact Nat.le_add_left _ _,
      by rw [List.length_append]; exact Nat.le_add_left _ _, rfl⟩

end Mm

section Adj
variable {R : Type} [CommRing R]

theorem matmulBackward_some (g a b : NDArray R) (ba bb batch : Shape) (n k m : Nat)
    (ha : a.shape = ba ++ [n, k]) (hb : b.shape = bb ++ [k, m])
    (hbc : broadcastShapes ba bb = some batch) (hg : g.shape = batch ++ [n, m]) :
    matmulBackward g a b = some
      (unbroadcast (ofFn (batch ++ [n, k])
        (mmFn g (transposeP b (swapPerm (bb.length + 2) bb.length (bb.length + 1))) batch bb batch m)) a.shape,
       unbroadcast (ofFn (batch ++ [k, m])
        (mmFn (transposeP a (swapPerm (ba.length + 2) ba.length (ba.length + 1))) g ba batch batch n)) b.shape) := by
  obtain ⟨_, h1, h2, _⟩ := broadcastShapes_absorb ba bb batch hbc
  simp only [matmulBackward, swapLast_eq b bb.length (by rw [hb, List.length_append]; rfl),
    swapLast_eq a ba.length (by rw [ha, List.length_append]; rfl), Option.bind_eq_bind, Option.bind_some, Option.pure_def,
    matmul_some g _ batch bb batch n m k hg (shape_transposeP_swapLast b bb k m hb) h1,
    matmul_some _ g ba batch batch k n m (shape_transposeP_swapLast a ba n k ha) hg h2]

/-- pairing a matrix product against any weight `w`: the trilinear form behind both transposes -/
theorem sum_mmFn (a b : NDArray R) (ba bb batch : Shape) (n k m : Nat) (w : Idx → R) :
    ((allIdx (batch ++ [n, m])).map (fun j => mmFn a b ba bb batch k j * w j)).sum
      = ((allIdx batch).map (fun jb => ∑ i ∈ Finset.range n, ∑ l ∈ Finset.range m, ∑ t ∈ Finset.range k,
          a.get (bcastIdx ba jb ++ [i, t]) * b.get (bcastIdx bb jb ++ [t, l]) * w (jb ++ [i, l]))).sum := by
  rw [sum_allIdx_append]
  simp +singlePass only [↓Proofs.ConvTools.sum_allIdx_cons, ↓Proofs.ConvTools.sum_allIdx_nil]
  refine sum_allIdx_congr _ _ _ fun jb hjb => ?_
  refine Finset.sum_congr rfl fun i _ => Finset.sum_congr rfl fun l _ => ?_
  rw [mmFn_append _ _ _ _ _ _ _ _ _ (validIdx_length _ _ hjb), Proofs.ConvTools.sum_map_range, Finset.sum_mul]

/- Each operand of `matmul` with batch broadcasting: pair forward and backward against `g` resp. `v`, bring each
   side to the trilinear form `sum_mmFn`, reorder the three inner sums, and match the summands (the transposed
   factor reads the other operand at swapped trailing indices). -/
theorem matmul_adj_left (a b y : NDArray R) (h : matmulForward a b = some y) :
    IsAdjoint (R := R) a.shape y.shape (fun v => matmulForward v b) (fun g => (matmulBackward g a b).map (·.1)) := by
  obtain ⟨ba, bb, batch, n, k, m, ha, hb, hbc, hy⟩ := matmul_inv a b y h
  rw [hy]
  intro v g _ hvs _ hgs
  have hB := matmulBackward_some g a b ba bb batch n k m ha hb hbc hgs
  have hF := matmul_some v b ba bb batch n k m (hvs.trans ha) hb hbc
  refine ⟨_, _, hF, congrArg (Option.map _) hB, ofFn_wf _ _, rfl, unbroadcast_wf _ _, unbroadcast_shape _ _, ?_⟩
  obtain ⟨hlen, hfa, -⟩ := broadcastShapes_inv ba bb batch hbc
  rw [dot_unbroadcast_ofFn a.shape (batch ++ [n, k]) _ (by rw [ha]; exact forall₂_bc_append hfa [n, k]) v _ hvs,
    dot_ofFn, sum_mmFn, sum_mmFn]
  refine sum_allIdx_congr _ _ _ fun jb hjb => ?_
  have hvb := bcastIdx_valid ba bb batch hbc jb hjb
  refine Finset.sum_congr rfl fun i hi => ?_
  rw [Finset.sum_comm]
  refine Finset.sum_congr rfl fun t ht => Finset.sum_congr rfl fun l hl => ?_
  rw [Finset.mem_range] at hi ht hl
  rw [bcastIdx_self batch jb hjb, get_transposeP_swapLast b bb k m hb (bcastIdx bb jb) l t (validIdx_length _ _ hvb.2)
      (validIdx_append _ _ _ _ hvb.2 (validIdx_two _ _ _ _ hl ht)),
    ha, bcastIdx_append ba [n, k] jb [i, t] (by rw [validIdx_length _ _ hjb, hlen]; exact Nat.le_max_left _ _) (validIdx_two _ _ _ _ hi ht)]
  ring

theorem matmul_adj_right (a b y : NDArray R) (h : matmulForward a b = some y) :
    IsAdjoint (R := R) b.shape y.shape (fun v => matmulForward a v) (fun g => (matmulBackward g a b).map (·.2)) := by
  obtain ⟨ba, bb, batch, n, k, m, ha, hb, hbc, hy⟩ := matmul_inv a b y h
  rw [hy]
  intro v g _ hvs _ hgs
  have hB := matmulBackward_some g a b ba bb batch n k m ha hb hbc hgs
  have hF := matmul_some a v ba bb batch n k m ha (hvs.trans hb) hbc
  refine ⟨_, _, hF, congrArg (Option.map _) hB, ofFn_wf _ _, rfl, unbroadcast_wf _ _, unbroadcast_shape _ _, ?_⟩
  obtain ⟨hlen, -, hfb⟩ := broadcastShapes_inv ba bb batch hbc
  rw [dot_unbroadcast_ofFn b.shape (batch ++ [k, m]) _ (by rw [hb]; exact forall₂_bc_append hfb [k, m]) v _ hvs,
    dot_ofFn, sum_mmFn, sum_mmFn]
  refine sum_allIdx_congr _ _ _ fun jb hjb => ?_
  have hvb := bcastIdx_valid ba bb batch hbc jb hjb
  rw [Finset.sum_comm]
  conv_rhs => rw [Finset.sum_comm]
  refine Finset.sum_congr rfl fun l hl => ?_
  rw [Finset.sum_comm]
  refine Finset.sum_congr rfl fun t ht => Finset.sum_congr rfl fun i hi => ?_
  rw [Finset.mem_range] at hi ht hl
  rw [bcastIdx_self batch jb hjb, get_transposeP_swapLast a ba n k ha (bcastIdx ba jb) t i (validIdx_length _ _ hvb.1)
      (validIdx_append _ _ _ _ hvb.1 (validIdx_two _ _ _ _ ht hi)),
    hb, bcastIdx_append bb [k, m] jb [t, l] (by rw [validIdx_length _ _ hjb, hlen]; exact Nat.le_max_right _ _) (validIdx_two _ _ _ _ ht hl)]
  ring

theorem matmul_zeros_left (sb : Shape) (c : NDArray R) (bb bc batch : Shape) (n k m : Nat)
    (hb : sb = bb ++ [n, k]) (hc : c.shape = bc ++ [k, m]) (hbc : broadcastShapes bb bc = some batch) :
    matmul (zeros sb : NDArray R) c = some (zeros (batch ++ [n, m])) := by
  rw [matmul_some (zeros sb) c bb bc batch n k m hb hc hbc]
  congr 1
  apply Proofs.ConvTools.ofFn_congr
  intro j _
  simp [mmFn, get_zeros]

theorem matmul_zeros_right (b : NDArray R) (sc : Shape) (bb bc batch : Shape) (n k m : Nat)
    (hb : b.shape = bb ++ [n, k]) (hc : sc = bc ++ [k, m]) (hbc : broadcastShapes bb bc = some batch) :
    matmul b (zeros sc : NDArray R) = some (zeros (batch ++ [n, m])) := by
  rw [matmul_some b (zeros sc) bb bc batch n k m hb hc hbc]
  congr 1
  apply Proofs.ConvTools.ofFn_congr
  intro j _
  simp [mmFn, get_zeros]

/-- `addmm` is `add` after `matmul`, forward and backward.  Rank 2 (`hb2`, `hc2`) because `addmm_backward`
    (cpu_ops.py) takes the shape of the product to be `(b.shape[0], c.shape[1])`. -/
theorem addmm_inv (a b c y : NDArray R) (h : addmmForward a b c = some y)
    (hb2 : b.shape.length = 2) (hc2 : c.shape.length = 2) :
    ∃ mm : NDArray R, matmul b c = some mm ∧ addForward a mm = some y ∧
      matmul (zeros b.shape : NDArray R) c = some (zeros mm.shape) ∧
      ∀ g : NDArray R, ∃ p, matmulBackward (addBackward g a.shape mm.shape).2 b c = some p ∧
        addmmBackward g a b c = some ((addBackward g a.shape mm.shape).1, p) := by
  obtain ⟨mm, hm, hadd⟩ := Option.bind_eq_some_iff.1 h
  obtain ⟨ba, bb, batch, n, k, m, has, hbs, hbc, hy⟩ := matmul_inv b c mm hm
  have e1 : ba = [] := by
    rw [has, List.length_append] at hb2
    exact List.length_eq_zero_iff.1 (Nat.add_right_cancel (m := 2) (hb2.trans (Nat.zero_add 2).symm))
  have e2 : bb = [] := by
    rw [hbs, List.length_append] at hc2
    exact List.length_eq_zero_iff.1 (Nat.add_right_cancel (m := 2) (hc2.trans (Nat.zero_add 2).symm))
  subst e1; subst e2
  have e3 : batch = [] := Option.some.inj (hbc.symm.trans (broadcastShapes_self []))
  subst e3
  refine ⟨mm, hm, hadd,
    hy ▸ matmul_zeros_left b.shape c [] [] [] n k m has hbs hbc, fun g => ?_⟩
  have hB := matmulBackward_some (unbroadcast g mm.shape) b c [] [] [] n k m has hbs hbc
    ((unbroadcast_shape _ _).trans hy)
  refine ⟨_, hB, ?_⟩
  have hbn : b.shape.getD 0 0 = n := by rw [has]; rfl
  have hcm : c.shape.getD 1 0 = m := by rw [hbs]; rfl
  have hy' : mm.shape = [n, m] := hy
  simp only [hy'] at hB ⊢
  simp only [addmmBackward, addBackward, hbn, hcm, hB, Option.bind_eq_bind, Option.bind_some, Option.pure_def]

end Adj

end Proofs.Adjoint
