import SynapModel.EngineStack
import SynapModel.Generated.EngineLogic
/-!
# The decision logic of `tensor.py`, as read on this run, is the decision logic of the engine model — which gradient buffers are zeroed, accumulated, released (C04, C03)

How the ties are made is said in `EngineLogicTraversal.lean`.
-/
namespace Proofs.EngineLogicTie
open Synap.Engine Synap.Gen.Engine

theorem zero_cond_is_model (n : Node G) (visited : Bool) :
    (n.reqGrad && (n.grad.isNone || (!n.isLeaf && !visited))) =
      backward_zero_cond (child_requires_grad := n.reqGrad) (child__grad_is_None := n.grad.isNone)
        (child_is_leaf := n.isLeaf) (child_in_visited_nodes := visited) := by
  rfl

theorem release_cond_is_model (n : Node G) (v root : Nat) (retainAll : Bool) :
    (v ≠ root && !n.isLeaf && !n.retain && !retainAll) =
      backward_releases (node_is_self := decide (v = root)) (node_is_leaf := n.isLeaf) (node__retain_grad := n.retain)
        (retain_grads__ := retainAll) := by
  unfold backward_releases
  rw [decide_not]

theorem zeroCheck_uses_src (s : DfsSt G) (c : Nat) :
    zeroCheck s c = match s.ns[c]? with
      | some n =>
        if backward_zero_cond (child_requires_grad := n.reqGrad) (child__grad_is_None := n.grad.isNone)
            (child_is_leaf := n.isLeaf) (child_in_visited_nodes := s.visited.contains c)
        then { s with ns := setGrad s.ns c (some n.zero), trace := s.trace ++ [TrEv.zero c] }
        else s
      | none => s := by
  rfl

theorem root_accumulates_is_model (r : Node G) (s : DfsSt G) (root : Nat) (g : G) [Add G] :
    (match r.isLeaf, r.grad with
       | true, some old => setGrad s.ns root (some (old + g))
       | _, _ => setGrad s.ns root (some g)) =
    (if backward_root_accumulates (self_is_leaf := r.isLeaf) (self__grad_is_None := r.grad.isNone)
     then setGrad s.ns root (some ((r.grad.getD r.zero) + g)) else setGrad s.ns root (some g)) := by
  cases r.isLeaf <;> cases r.grad <;> rfl

/-- one step of the sweep: after the (guarded) `grad_fn` call the buffer is released exactly when the source's condition holds -/
theorem sweep_uses_src [Add G] (root : Nat) (retainAll : Bool) (v : Nat) (rest : List Nat) (ns : Graph G) (tr : List TrEv)
    (n : Node G) (h : ns[v]? = some n) :
    sweep root retainAll (v :: rest) ns tr =
      (let r := match n.back, n.grad with
        | some f, some g => ((f g).bind (accumulate ns n.children)).map (fun ns' => (ns', tr ++ [TrEv.call v]))
        | some _, none => none
        | none, _ => some (ns, tr)
       match r with
       | none => none
       | some (ns, tr) =>
         if backward_releases (node_is_self := decide (v = root)) (node_is_leaf := n.isLeaf) (node__retain_grad := n.retain)
             (retain_grads__ := retainAll)
         then sweep root retainAll rest (setGrad ns v none) (tr ++ [TrEv.release v])
         else sweep root retainAll rest ns tr) := by
  unfold backward_releases
  rw [sweep, h, ← decide_not]
  rfl

end Proofs.EngineLogicTie
