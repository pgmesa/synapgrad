import SynapModel.Engine
import Proofs.AssocList
/-!
# The reverse-mode engine: vocabulary and the induction rule for `visit`

`backward` changes nothing but gradient buffers, so every graph it passes through has the skeleton of the
initial one (`Skel`: equal after erasing the buffers) and `children` and flags may be read off either.  `visit`
is unfolded once (`visit_succ`: a fold, `stk_body`, over the children, each first put through `enc`, the
zero-initialisation test of the loop body); every later induction over the traversal is an instance of
`visit_rule`.
-/
namespace Proofs.Engine
open Synap.Engine

variable {G : Type}

theorem getElem?_setGrad (ns : Graph G) (i : Nat) (g : Option G) (k : Nat) :
    (setGrad ns i g)[k]? = (ns[k]?).map (fun n => if k = i then { n with grad := g } else n) :=
  List.getElem?_zipIdx_map_ite ns i (fun n => { n with grad := g }) k

theorem length_setGrad (ns : Graph G) (i : Nat) (g : Option G) :
    (setGrad ns i g).length = ns.length := by
  simp [setGrad]

theorem getElem?_setGrad_ne (ns : Graph G) (i : Nat) (g : Option G) (k : Nat) (h : k ≠ i) :
    (setGrad ns i g)[k]? = ns[k]? := by
  rw [getElem?_setGrad]; simp [h]

theorem getElem?_setGrad_self (ns : Graph G) (i : Nat) (g : Option G) :
    (setGrad ns i g)[i]? = (ns[i]?).map (fun n => { n with grad := g }) := by
  rw [getElem?_setGrad]; simp

def strip (n : Node G) : Node G := { n with grad := none }

theorem strip_eq_iff (n m : Node G) : strip n = strip m ↔
    n.children = m.children ∧ n.reqGrad = m.reqGrad ∧ n.back = m.back ∧ n.retain = m.retain ∧ n.zero = m.zero := by
  simp [strip]

theorem children_of_strip {n m : Node G} (h : strip n = strip m) : n.children = m.children := ((strip_eq_iff n m).mp h).1
theorem reqGrad_of_strip {n m : Node G} (h : strip n = strip m) : n.reqGrad = m.reqGrad := ((strip_eq_iff n m).mp h).2.1
theorem back_of_strip {n m : Node G} (h : strip n = strip m) : n.back = m.back := ((strip_eq_iff n m).mp h).2.2.1
theorem retain_of_strip {n m : Node G} (h : strip n = strip m) : n.retain = m.retain := ((strip_eq_iff n m).mp h).2.2.2.1
theorem zero_of_strip {n m : Node G} (h : strip n = strip m) : n.zero = m.zero := ((strip_eq_iff n m).mp h).2.2.2.2

theorem isLeaf_of_strip {n m : Node G} (h : strip n = strip m) : n.isLeaf = m.isLeaf := by
  simp [Node.isLeaf, reqGrad_of_strip h, back_of_strip h]

theorem reqGrad_of_nonleaf {n : Node G} (h : n.isLeaf = false) : n.reqGrad = true := by
  cases hr : n.reqGrad <;> simp [Node.isLeaf, hr] at h ⊢

theorem back_of_nonleaf {n : Node G} (h : n.isLeaf = false) : n.back.isSome = true := by
  cases hb : n.back <;> simp [Node.isLeaf, hb] at h ⊢

theorem strip_setGradField (n : Node G) (g : Option G) : strip { n with grad := g } = strip n := rfl

theorem withGrad_of_strip {n m : Node G} (h : strip n = strip m) (g : Option G) :
    { n with grad := g } = { m with grad := g } :=
  congrArg (fun x : Node G => { x with grad := g }) h

theorem eq_of_strip_of_grad {n m : Node G} (h : strip n = strip m) (hg : n.grad = m.grad) : n = m :=
  (withGrad_of_strip h n.grad).trans (by rw [hg])

def Skel (a b : Graph G) : Prop := a.map strip = b.map strip

theorem Skel.refl (a : Graph G) : Skel a a := rfl
theorem Skel.symm {a b : Graph G} (h : Skel a b) : Skel b a := Eq.symm h
theorem Skel.trans {a b c : Graph G} (h : Skel a b) (h' : Skel b c) : Skel a c := Eq.trans h h'

theorem Skel.length {a b : Graph G} (h : Skel a b) : a.length = b.length := by
  have := congrArg List.length h; simpa using this

theorem Skel.get {a b : Graph G} (h : Skel a b) {k : Nat} {n : Node G} (hn : a[k]? = some n) :
    ∃ m, b[k]? = some m ∧ strip m = strip n := by
  have := congrArg (fun l => l[k]?) h
  simp only [List.getElem?_map, hn] at this
  exact Option.map_eq_some_iff.mp this.symm

theorem Skel.get_none {a b : Graph G} (h : Skel a b) {k : Nat} (hn : a[k]? = none) : b[k]? = none := by
  rw [List.getElem?_eq_none_iff] at hn ⊢; rw [← h.length]; exact hn

theorem skel_setGrad (ns : Graph G) (i : Nat) (g : Option G) : Skel ns (setGrad ns i g) := by
  apply List.ext_getElem?
  intro k
  rw [List.getElem?_map, List.getElem?_map, getElem?_setGrad]
  cases ns[k]? with
  | none => rfl
  | some n => by_cases hk : k = i <;> simp [hk, strip]

/-- every node of `ns` is a node of `ns0` up to its gradient buffer (`Skel` in one direction) -/
def DSkel (ns0 ns : Graph G) : Prop :=
  ∀ (v : Nat) (n : Node G), ns[v]? = some n → ∃ n0, ns0[v]? = some n0 ∧
    n.children = n0.children ∧ n.reqGrad = n0.reqGrad ∧ n.back = n0.back ∧ n.retain = n0.retain ∧
    n.zero = n0.zero

theorem DSkel.refl (ns : Graph G) : DSkel ns ns := fun _ n h => ⟨n, h, rfl, rfl, rfl, rfl, rfl⟩

theorem DSkel.of_skel {ns0 ns : Graph G} (h : Skel ns0 ns) : DSkel ns0 ns := fun _ _ hn =>
  let ⟨n0, h0, hst⟩ := h.symm.get hn
  ⟨n0, h0, (strip_eq_iff _ _).mp hst.symm⟩

def chOf (ns : Graph G) (v : Nat) : List Nat :=
  match ns[v]? with | some n => n.children | none => []

theorem chOf_eq (ns : Graph G) (v : Nat) : chOf ns v = ((ns[v]?).map Node.children).getD [] := by
  unfold chOf; cases ns[v]? <;> rfl

theorem mem_chOf {ns : Graph G} {v c : Nat} : c ∈ chOf ns v ↔ ∃ n, ns[v]? = some n ∧ c ∈ n.children := by
  unfold chOf
  cases ns[v]? <;> simp

/-- the same nodes with the same `children`: all that steers `visit` (`visit_rel`); weaker than `Skel` -/
def KidsEq (a b : Graph G) : Prop := ∀ v : Nat, (a[v]?).map Node.children = (b[v]?).map Node.children

theorem KidsEq.chOf {a b : Graph G} (h : KidsEq a b) (v : Nat) : chOf a v = chOf b v := by
  rw [chOf_eq, chOf_eq, h v]

theorem KidsEq.of_skel {a b : Graph G} (h : Skel a b) : KidsEq a b := by
  intro v
  have e : ∀ l : Graph G, (l[v]?).map Node.children = ((l.map strip)[v]?).map Node.children := fun l => by
    rw [List.getElem?_map, Option.map_map]; rfl
  rw [e a, e b, show a.map strip = b.map strip from h]

theorem chOf_skel {a b : Graph G} (h : Skel a b) (v : Nat) : chOf a v = chOf b v := (KidsEq.of_skel h).chOf v

/-- parents first, the order `sweep` needs: a node's buffer is complete before its `grad_fn` is called -/
def Topo (ch : Nat → List Nat) : List Nat → Prop
  | [] => True
  | v :: rest => v ∉ rest ∧ (∀ c ∈ ch v, c ∈ rest) ∧ Topo ch rest

theorem Topo.nodup {ch : Nat → List Nat} : ∀ {l : List Nat}, Topo ch l → l.Nodup
  | [], _ => List.nodup_nil
  | _ :: _, h => List.nodup_cons.mpr ⟨h.1, Topo.nodup h.2.2⟩

theorem Topo.not_child {ch : Nat → List Nat} {l : List Nat} (h : Topo ch l) (x : Nat) (hx : x ∉ l) :
    ∀ u ∈ l, x ∉ ch u := by
  induction l with
  | nil => intro u hu; cases hu
  | cons a t ih =>
    intro u hu hc
    rcases List.mem_cons.mp hu with rfl | hu'
    · exact hx (List.mem_cons_of_mem _ (h.2.1 x hc))
    · exact ih h.2.2 (fun hh => hx (List.mem_cons_of_mem _ hh)) u hu' hc

/-- the test in front of `child.zero_()` (tensor.py l. 381), as `Synap.Engine.visit` writes it -/
def encCond (s : DfsSt G) (c : Nat) (n : Node G) : Bool :=
  n.reqGrad && (n.grad.isNone || (!n.isLeaf && !s.visited.contains c))

/-- what the loop body does to a child before descending into it (`zeroCheck` of the stack machine) -/
def enc (s : DfsSt G) (c : Nat) : DfsSt G :=
  match s.ns[c]? with
  | some n =>
    if encCond s c n
    then { s with ns := setGrad s.ns c (some n.zero), trace := s.trace ++ [TrEv.zero c] }
    else s
  | none => s

theorem visit_zero (v : Nat) (s : DfsSt G) : visit 0 v s = s := rfl

theorem enc_cases (s : DfsSt G) (c : Nat) :
    enc s c = s ∨ ∃ n, s.ns[c]? = some n ∧ encCond s c n = true ∧
      enc s c = { s with ns := setGrad s.ns c (some n.zero), trace := s.trace ++ [TrEv.zero c] } := by
  unfold enc
  cases h : s.ns[c]? with
  | none => exact Or.inl rfl
  | some n =>
    by_cases hc : encCond s c n = true
    · exact Or.inr ⟨n, rfl, hc, by simp [hc]⟩
    · exact Or.inl (by simp [hc])

@[simp] theorem enc_visited (s : DfsSt G) (c : Nat) : (enc s c).visited = s.visited := by
  rcases enc_cases s c with h | ⟨n, _, _, h⟩ <;> rw [h]

@[simp] theorem enc_ordered (s : DfsSt G) (c : Nat) : (enc s c).ordered = s.ordered := by
  rcases enc_cases s c with h | ⟨n, _, _, h⟩ <;> rw [h]

theorem enc_skel (s : DfsSt G) (c : Nat) : Skel s.ns (enc s c).ns := by
  rcases enc_cases s c with h | ⟨n, _, _, h⟩ <;> rw [h]
  · exact Skel.refl _
  · exact skel_setGrad _ _ _

end Proofs.Engine

namespace Proofs.EngineStack
open Synap.Engine Proofs.Engine
variable {G : Type}

/-- `visit`'s fold over a list of children.  The name belongs to the explicit-stack machine
    (`Proofs/EngineStack.lean`), where it is the meaning of a frame: hence the change of namespace for these three
    declarations. -/
def stk_body (f : Nat) (s : DfsSt G) (cs : List Nat) : DfsSt G :=
  cs.foldl (fun s c => visit f c (enc s c)) s

theorem stk_body_nil (f : Nat) (s : DfsSt G) : stk_body f s [] = s := rfl
theorem stk_body_cons (f : Nat) (s : DfsSt G) (c : Nat) (cs : List Nat) :
    stk_body f s (c :: cs) = stk_body f (visit f c (enc s c)) cs := rfl

end Proofs.EngineStack

namespace Proofs.Engine
open Synap.Engine Proofs.EngineStack
variable {G : Type}

theorem visit_succ (f v : Nat) (s : DfsSt G) :
    visit (f+1) v s =
      if s.visited.contains v then s else
      let t := stk_body f { s with visited := v :: s.visited } (chOf s.ns v)
      { t with ordered := t.ordered ++ [v] } := rfl

theorem stk_body_ns_inv {I : Graph G → Prop} (henc : ∀ (s : DfsSt G) c, I s.ns → I (enc s c).ns) (f : Nat)
    (IH : ∀ v (s : DfsSt G), I s.ns → I (visit f v s).ns) (cs : List Nat) (s : DfsSt G) (h : I s.ns) :
    I (stk_body f s cs).ns := by
  induction cs generalizing s with
  | nil => exact h
  | cons c cs ih => exact ih _ (IH c _ (henc s c h))

theorem visit_ns_inv {I : Graph G → Prop} (henc : ∀ (s : DfsSt G) c, I s.ns → I (enc s c).ns) (f v : Nat)
    (s : DfsSt G) (h : I s.ns) : I (visit f v s).ns := by
  induction f generalizing v s with
  | zero => exact h
  | succ f ih =>
    rw [visit_succ]
    split
    · exact h
    · exact stk_body_ns_inv henc f ih _ _ h

theorem visit_skel (f v : Nat) (s : DfsSt G) : Skel s.ns (visit f v s).ns :=
  visit_ns_inv (I := Skel s.ns) (fun t c h => h.trans (enc_skel t c)) f v s (Skel.refl _)

/-! A Hoare-style rule for `visit` on graphs whose operands precede their results: `P v s` is what a call on `v`
in state `s` may assume, `Q v s s'` what it establishes, `J v s cs t` the invariant of the fold over the children of
`v`, with `cs` the children still to come and `t` the state reached.  The skeleton of `ns0` is carried along. -/

theorem visit_rule (ns0 : Graph G) (hw : ∀ u c, c ∈ chOf ns0 u → c < u)
    (P : Nat → DfsSt G → Prop) (Q : Nat → DfsSt G → DfsSt G → Prop)
    (J : Nat → DfsSt G → List Nat → DfsSt G → Prop)
    (hvis : ∀ v s, P v s → v ∈ s.visited → Q v s s)
    (hinit : ∀ v s, Skel ns0 s.ns → P v s → v ∉ s.visited →
      J v s (chOf ns0 v) { s with visited := v :: s.visited })
    (hstep : ∀ v s c cs t, c ∈ chOf ns0 v → J v s (c :: cs) t →
      P c (enc t c) ∧ ∀ t', Q c (enc t c) t' → J v s cs t')
    (hfin : ∀ v s t, J v s [] t → Q v s { t with ordered := t.ordered ++ [v] })
    (f v : Nat) (s : DfsSt G) (hv : v < f) (hs : Skel ns0 s.ns) (hp : P v s) : Q v s (visit f v s) := by
  induction f generalizing v s with
  | zero => exact absurd hv (Nat.not_lt_zero v)
  | succ f ih =>
    rw [visit_succ]
    by_cases hvs : v ∈ s.visited
    · rw [if_pos (List.contains_iff_mem.mpr hvs)]
      exact hvis v s hp hvs
    · rw [if_neg (mt List.contains_iff_mem.mp hvs), ← chOf_skel hs v]
      have hfold : ∀ (cs : List Nat) (t : DfsSt G), (∀ c ∈ cs, c ∈ chOf ns0 v) → Skel ns0 t.ns → J v s cs t →
          J v s [] (stk_body f t cs) := by
        intro cs
        induction cs with
        | nil => intro t _ _ hj; exact hj
        | cons c cs ihc =>
          intro t hcs hs hj
          have hc := hcs c List.mem_cons_self
          obtain ⟨hp, hq⟩ := hstep v s c cs t hc hj
          have hs1 : Skel ns0 (enc t c).ns := hs.trans (enc_skel t c)
          exact ihc _ (fun c' h' => hcs c' (List.mem_cons_of_mem _ h')) (hs1.trans (visit_skel f c _))
            (hq _ (ih c _ (Nat.lt_of_lt_of_le (hw v c hc) (Nat.le_of_lt_succ hv)) hs1 hp))
      exact hfin v s _ (hfold _ { s with visited := v :: s.visited } (fun _ h => h) hs (hinit v s hs hp hvs))

end Proofs.Engine
