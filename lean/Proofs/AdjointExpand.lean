import Proofs.AdjointReshape
import Proofs.AdjointStack
/-!
# `np.expand_dims`: the result shape has 1 at the named axes and the operand's shape elsewhere
-/
namespace Proofs.Adjoint
open Synap Synap.Np Proofs.Core Proofs.SpecOps

theorem count_not_named (n : Nat) (ax : List Nat) (hnd : ax.Nodup) (hlt : ∀ k ∈ ax, k < n) :
    ((List.range n).filter (fun k => !ax.contains k)).length = n - ax.length := by
  have h1 := List.length_eq_length_filter_add (l := List.range n) (fun k => ax.contains k)
  -- the named positions below `n` are `ax` up to order
  have hp : ((List.range n).filter (fun k => ax.contains k)).Perm ax := by
    rw [List.perm_ext_iff_of_nodup (List.nodup_range.filter _) hnd]
    intro k
    rw [List.mem_filter, List.mem_range, List.contains_iff_mem]
    exact ⟨fun h => h.2, fun h => ⟨hlt k h, h⟩⟩
  rw [List.length_range, hp.length_eq] at h1
  omega

/-- the fold of `Np.expandDims` as a structural recursion (`expand_foldl`), over the positions `m, m+1, …, m+c-1`:
    a named position gets 1, any other the next operand size -/
def expandShape (ax : List Nat) : Nat → Nat → Shape → Shape
  | _, 0, _ => []
  | m, c + 1, rem =>
    if ax.contains m then 1 :: expandShape ax (m + 1) c rem
    else rem.headD 1 :: expandShape ax (m + 1) c (rem.drop 1)

theorem expand_foldl (ax : List Nat) : ∀ (c m : Nat) (acc rem : Shape),
    ((List.range' m c).foldl (fun (acc : Shape × Shape) k =>
        if ax.contains k then (acc.1 ++ [1], acc.2)
        else (acc.1 ++ [acc.2.headD 1], acc.2.drop 1)) (acc, rem)).1 = acc ++ expandShape ax m c rem := by
  intro c
  induction c with
  | zero => exact fun m acc rem => (List.append_nil acc).symm
  | succ c ih =>
    intro m acc rem
    rw [List.range'_succ, List.foldl_cons]
    by_cases h : ax.contains m = true
    · rw [if_pos h, ih, expandShape, if_pos h, List.append_assoc]; rfl
    · rw [if_neg h, ih, expandShape, if_neg h, List.append_assoc]; rfl

theorem expandShape_length (ax : List Nat) : ∀ (c m : Nat) (rem : Shape),
    (expandShape ax m c rem).length = c := by
  intro c
  induction c with
  | zero => exact fun _ _ => rfl
  | succ c ih =>
    intro m rem
    rw [expandShape]
    split_ifs <;> exact congrArg (· + 1) (ih _ _)

/-- an un-named position takes the operand size whose number is the count of un-named positions before it -/
theorem expandShape_getD (ax : List Nat) (c : Nat) : ∀ (m : Nat) (rem : Shape) (i : Nat), i < c →
    (expandShape ax m c rem).getD i 0 =
      if (m + i) ∈ ax then 1
      else rem.getD (((List.range' m i).filter (fun k => !ax.contains k)).length) 1 := by
  induction c with
  | zero => exact fun _ _ _ h => absurd h (Nat.not_lt_zero _)
  | succ c ih =>
    intro m rem i hi
    rw [expandShape]
    cases i with
    | zero =>
      by_cases hc : ax.contains m = true
      · rw [if_pos hc, if_pos (show m + 0 ∈ ax from List.contains_iff_mem.1 hc)]; rfl
      · rw [if_neg hc, if_neg (show ¬ m + 0 ∈ ax from fun h => hc (List.contains_iff_mem.2 h))]
        cases rem <;> rfl
    | succ i =>
      replace ih := fun rem => ih (m + 1) rem i (Nat.lt_of_succ_lt_succ hi)
      rw [List.range'_succ, List.filter_cons, show m + (i + 1) = m + 1 + i by rw [Nat.add_assoc, Nat.add_comm 1]]
      by_cases hc : ax.contains m = true
      · rw [if_pos hc, List.getD_cons_succ, ih, if_neg (show ¬ (!ax.contains m) = true by rw [hc]; decide)]
      · rw [if_neg hc, List.getD_cons_succ, ih,
          if_pos (show (!ax.contains m) = true by rw [Bool.not_eq_true] at hc; rw [hc]; rfl)]
        cases rem <;> rfl

theorem expandShape_one (ax : List Nat) (c m : Nat) (rem : Shape) (i : Nat) (hi : i < c) (hm : (m + i) ∈ ax) :
    (expandShape ax m c rem).getD i 0 = 1 := by
  rw [expandShape_getD ax c m rem i hi, if_pos hm]

theorem expandShape_drop (ax : List Nat) : ∀ (c m : Nat) (rem : Shape),
    rem.length = (List.range' m c).countP (fun k => !ax.contains k) →
    maskFrom 1 m ax false (expandShape ax m c rem) = rem := by
  intro c
  induction c with
  | zero =>
    intro m rem h
    rw [expandShape, maskFrom_nil, List.length_eq_zero_iff.1 h]
  | succ c ih =>
    intro m rem h
    rw [List.range'_succ, List.countP_cons] at h
    rw [expandShape]
    by_cases hm : m ∈ ax
    · have hc : ax.contains m = true := List.contains_iff_mem.2 hm
      rw [hc, Bool.not_true, if_neg Bool.false_ne_true] at h
      rw [if_pos hc, maskFrom_cons, if_pos hm, if_neg Bool.false_ne_true]
      exact ih (m + 1) rem h
    · have hc : ax.contains m = false := Bool.eq_false_iff.2 fun h => hm (List.contains_iff_mem.1 h)
      rw [hc, Bool.not_false, if_pos rfl] at h
      rw [if_neg (hc ▸ Bool.false_ne_true), maskFrom_cons, if_neg hm]
      -- an un-named position takes the next operand size: there is one left, by the count
      cases rem with
      | nil => cases h
      | cons x rem => exact congrArg (x :: ·) (ih (m + 1) rem (Nat.succ.inj h))

theorem expandDims_eq {α : Type} [Zero α] (x : NDArray α) (axes : List Int) :
    expandDims x axes = (normAxes (x.shape.length + axes.length) axes).map fun ax =>
      reshapeTo x (expandShape ax 0 (x.shape.length + axes.length) x.shape) := by
  show (normAxes (x.shape.length + axes.length) axes).bind _ = _
  cases normAxes (x.shape.length + axes.length) axes with
  | none => rfl
  | some ax =>
    simp only [Option.bind_some]
    rw [List.range_eq_range', expand_foldl]
    rfl

theorem dropAxes_expandShape {ax : List Nat} {n : Nat} {sh : Shape} (hnd : ax.Nodup) (hlt : ∀ k ∈ ax, k < n)
    (hn : sh.length + ax.length = n) : dropAxes (expandShape ax 0 n sh) ax = sh := by
  rw [dropAxes_eq_maskFrom _ ax 1]
  apply expandShape_drop
  rw [← List.range_eq_range', List.countP_eq_length_filter, count_not_named _ ax hnd hlt]
  omega

theorem size_insertAt_one (s : Shape) (a : Nat) : Shape.size (insertAt s a 1) = Shape.size s := by
  rw [size_eq_prod, size_eq_prod, insertAt, List.prod_append, List.prod_cons, one_mul, ← List.prod_append,
    List.take_append_drop]

theorem ravel_insertAt_one (s : Shape) (q : Idx) (a : Nat) (ha : a ≤ s.length) (hl : q.length = s.length) :
    ravel (insertAt s a 1) (insertAt q a 0) = ravel s q := by
  induction a generalizing s q with
  | zero =>
    show 0 * Shape.size s + ravel s q = ravel s q
    rw [Nat.zero_mul, Nat.zero_add]
  | succ a ih =>
    match s, q, ha, hl with
    | n :: s, x :: q, ha, hl =>
      show x * Shape.size (insertAt s a 1) + ravel (insertAt s a 1) (insertAt q a 0) = x * Shape.size s + ravel s q
      rw [size_insertAt_one, ih s q (Nat.le_of_succ_le_succ ha) (Nat.succ.inj hl)]

theorem get_reshapeTo_insertAt_one {α : Type} [Zero α] (x : NDArray α) (a : Nat) (q : Idx) (ha : a ≤ x.shape.length)
    (hq : validIdx x.shape q) : (reshapeTo x (insertAt x.shape a 1)).get (insertAt q a 0) = x.get q :=
  get_reshapeTo x _ _ _ (validIdx_insertAt _ q a 1 0 hq Nat.one_pos) hq
    (ravel_insertAt_one _ q a ha (validIdx_length _ _ hq))

theorem expandShape_single (s : Shape) (a0 : Nat) (h : a0 ≤ s.length) :
    expandShape [a0] 0 (s.length + 1) s = insertAt s a0 1 := by
  have hlt := Nat.lt_succ_of_le h
  have hdrop : dropAxes (expandShape [a0] 0 (s.length + 1) s) [a0] = s :=
    dropAxes_expandShape (List.nodup_singleton a0) (fun k hk => List.mem_singleton.1 hk ▸ hlt) rfl
  have := insertAt_eraseIdx (expandShape [a0] 0 (s.length + 1) s) a0 0 (by rwa [expandShape_length])
  rwa [← dropAxes_single, hdrop, expandShape_one [a0] (s.length + 1) 0 s a0 hlt
    (by rw [Nat.zero_add]; exact List.mem_singleton_self a0), eq_comm] at this

theorem expandDims_single {α : Type} [Zero α] (x : NDArray α) (axis : Int) (a0 : Nat)
    (hn : normAxis (x.shape.length + 1) axis = some a0) :
    expandDims x [axis] = some (reshapeTo x (insertAt x.shape a0 1)) := by
  have ha0 : a0 ≤ x.shape.length := Nat.le_of_lt_succ (normAxis_lt hn)
  have hax : normAxes (x.shape.length + 1) [axis] = some [a0] := by
    simp [normAxes, hn, List.eraseDups_cons]
  rw [expandDims_eq]
  show (normAxes (x.shape.length + 1) [axis]).map _ = _
  rw [hax]
  exact congrArg (fun s => some (reshapeTo x s)) (expandShape_single _ _ ha0)

end Proofs.Adjoint
