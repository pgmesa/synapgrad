import Proofs.AdjointDefs
import Proofs.NpForms
import Proofs.ArrayMapLemmas
/-!
# General tools for the adjoint (VJP) proofs

`IsAdjoint` is kept by replacing either map by one that agrees with it on the stated shapes, by exchanging the
two maps, by composition and by scaling.  Every data-movement kernel is an instance of one pair, forward
`gather φ` and backward `scatterAdd φ` (`Proofs.Core.gather_scatter_adjoint`); the forms after it ask less of
the two kernels: the backward may be the gather by the inverse when `φ` is a bijection; both may be known
only entry by entry, the backward as the sum of the weighted gradient over the fibres of `φ`; for an
injective `φ` that is "`g (ψ i)` on the image of `φ`, zero elsewhere".
-/
namespace Proofs.Adjoint
open Synap Synap.NDArray Proofs.Core Proofs.Calc

section Basic
variable {α : Type}

theorem zeros_shape [Zero α] (s : Shape) : (zeros s : NDArray α).shape = s := rfl

theorem get_shape_nil [Zero α] (x : NDArray α) (hx : x.shape = []) (i i' : Idx) : x.get i = x.get i' := by
  simp [NDArray.get, hx, ravel]

theorem gather_wf [Zero α] (s : Shape) (φ : Idx → Idx) (x : NDArray α) : (gather s φ x).WF := ofFn_wf _ _
theorem scatterAdd_wf [Zero α] [Add α] (s t : Shape) (φ : Idx → Idx) (x : NDArray α) :
    (scatterAdd s t φ x).WF := ofFn_wf _ _
theorem scatterAdd_shapeB [Zero α] [Add α] (s t : Shape) (φ : Idx → Idx) (x : NDArray α) :
    (scatterAdd s t φ x).shape = s := rfl

end Basic

variable {R : Type} [CommSemiring R]

theorem gather_shape (s : Shape) (φ : Idx → Idx) (x : NDArray R) : (gather s φ x).shape = s := rfl
theorem scatterAdd_shape (s t : Shape) (φ : Idx → Idx) (x : NDArray R) :
    (scatterAdd s t φ x).shape = s := rfl

theorem dot_congr (x x' y y' : NDArray R) (hs : x.shape = x'.shape)
    (h : ∀ i, validIdx x.shape i → x.get i * y.get i = x'.get i * y'.get i) : dot x y = dot x' y' := by
  rw [dot_eq_sum, dot_eq_sum, ← hs]
  exact sum_allIdx_congr _ _ _ h

theorem dot_congr_left (x x' y : NDArray R) (hs : x.shape = x'.shape)
    (h : ∀ i, validIdx x.shape i → x.get i = x'.get i) : dot x y = dot x' y :=
  dot_congr x x' y y hs (fun i hi => by rw [h i hi])

theorem sum_filter_map_eq_ite (l : List Idx) (p : Idx → Bool) (f : Idx → R) :
    ((l.filter p).map f).sum = (l.map (fun j => if p j then f j else 0)).sum := by
  induction l with
  | nil => simp
  | cons a l ih =>
    by_cases h : p a <;> simp [h, ih]

theorem IsAdjoint.congr {sa sy : Shape} {F B F' B' : NDArray R → Option (NDArray R)}
    (h : IsAdjoint sa sy F' B')
    (hF : ∀ v : NDArray R, v.WF → v.shape = sa → F v = F' v)
    (hB : ∀ g : NDArray R, g.WF → g.shape = sy → B g = B' g) : IsAdjoint sa sy F B := by
  intro v g hv hvs hg hgs
  rw [hF v hv hvs, hB g hg hgs]
  exact h v g hv hvs hg hgs

theorem IsAdjoint.of_shape_eq {sa sa' sy sy' : Shape} {F B : NDArray R → Option (NDArray R)}
    (h : IsAdjoint sa sy F B) (h1 : sa = sa') (h2 : sy = sy') : IsAdjoint sa' sy' F B := by
  subst h1; subst h2; exact h

theorem IsAdjoint.backward_some {sa sy : Shape} {F B : NDArray R → Option (NDArray R)} (h : IsAdjoint sa sy F B)
    (g : NDArray R) (hg : g.WF) (hgs : g.shape = sy) : ∃ b, B g = some b ∧ b.WF ∧ b.shape = sa := by
  obtain ⟨_, b, _, hB, _, _, hb, hbs, _⟩ := h (zeros sa) g (zeros_wf sa) rfl hg hgs
  exact ⟨b, hB, hb, hbs⟩

theorem IsAdjoint.symm {sa sy : Shape} {F B : NDArray R → Option (NDArray R)}
    (h : IsAdjoint sa sy F B) : IsAdjoint sy sa B F := by
  intro g v hg hgs hv hvs
  obtain ⟨y, b, hF, hB, hy, hys, hb, hbs, hd⟩ := h v g hv hvs hg hgs
  refine ⟨b, y, hB, hF, hb, hbs, hy, hys, ?_⟩
  rw [dot_comm b v (hbs.trans hvs.symm), ← hd, dot_comm y g (hys.trans hgs.symm)]

theorem IsAdjoint.comp {sa sm sy : Shape} {F1 B1 F2 B2 : NDArray R → Option (NDArray R)}
    (h1 : IsAdjoint sa sm F1 B1) (h2 : IsAdjoint sm sy F2 B2) :
    IsAdjoint sa sy (fun v => (F1 v).bind F2) (fun g => (B2 g).bind B1) := by
  intro v g hv hvs hg hgs
  -- `y1 = F1 v` is the same whatever cotangent `h1` is asked at: first any, then `B2 g`
  obtain ⟨y1, _, hF1, _, hy1, hy1s, _, _, _⟩ := h1 v (zeros sm) hv hvs (zeros_wf sm) rfl
  obtain ⟨y2, b2, hF2, hB2, hy2, hy2s, hb2, hb2s, hd2⟩ := h2 y1 g hy1 hy1s hg hgs
  obtain ⟨y1', b1, hF1', hB1, _, _, hb1, hb1s, hd1⟩ := h1 v b2 hv hvs hb2 hb2s
  have : y1' = y1 := by rw [hF1] at hF1'; exact (Option.some.inj hF1').symm
  subst this
  refine ⟨y2, b1, ?_, ?_, hy2, hy2s, hb1, hb1s, hd2.trans hd1⟩
  · simp [hF1, hF2]
  · simp [hB2, hB1]

theorem dot_map_mul (c : R) (x z : NDArray R) : dot (x.map (· * c)) z = dot x z * c := by
  rw [dot_eq_sum, dot_eq_sum, ← List.sum_map_mul_right]
  exact congrArg List.sum (List.map_congr_left fun i _ => by rw [get_map0 _ (zero_mul c), mul_right_comm])

theorem IsAdjoint.map_mul {sa sy : Shape} {F B : NDArray R → Option (NDArray R)} (c : R)
    (h : IsAdjoint sa sy F B) :
    IsAdjoint sa sy (fun v => (F v).map (fun y => y.map (· * c))) (fun g => (B g).map (fun b => b.map (· * c))) := by
  intro v g hv hvs hg hgs
  obtain ⟨y, b, hF, hB, hy, hys, hb, hbs, hd⟩ := h v g hv hvs hg hgs
  refine ⟨y.map (· * c), b.map (· * c), congrArg (Option.map _) hF, congrArg (Option.map _) hB,
    map_wf _ _ hy, hys, map_wf _ _ hb, hbs, ?_⟩
  rw [dot_map_mul, hd, dot_comm v b (hvs.trans hbs.symm), ← dot_map_mul]
  exact dot_comm _ v (hbs.trans hvs.symm)

theorem isAdjoint_of_gather_scatter (sa sy : Shape) (φ : Idx → Idx)
    (hφ : ∀ j, validIdx sy j → validIdx sa (φ j))
    (F B : NDArray R → Option (NDArray R))
    (hF : ∀ v : NDArray R, v.WF → v.shape = sa → F v = some (gather sy φ v))
    (hB : ∀ g : NDArray R, g.WF → g.shape = sy → B g = some (scatterAdd sa sy φ g)) :
    IsAdjoint sa sy F B := by
  intro v g hv hvs hg hgs
  exact ⟨_, _, hF v hv hvs, hB g hg hgs, gather_wf _ _ _, rfl, scatterAdd_wf _ _ _ _, rfl,
    gather_scatter_adjoint sa sy φ hφ v g hvs⟩

theorem fibre_eq_singleton (sy : Shape) (φ : Idx → Idx) (i j0 : Idx) (hj0 : validIdx sy j0) (h0 : φ j0 = i)
    (huniq : ∀ j, validIdx sy j → φ j = i → j = j0) : (allIdx sy).filter (fun j => φ j == i) = [j0] :=
  List.perm_singleton.1
    ((List.perm_ext_iff_of_nodup ((allIdx_nodup sy).filter _) (List.nodup_singleton _)).2 fun j => by
      rw [List.mem_filter, List.mem_singleton, mem_allIdx, beq_iff_eq]
      exact ⟨fun h => huniq j h.1 h.2, fun h => h ▸ ⟨hj0, h0⟩⟩)

/-- the filtered sum of `scatterAdd` along a bijection has exactly one term -/
theorem scatterAdd_eq_gather_of_bij (sa sy : Shape) (φ ψ : Idx → Idx)
    (hψ : ∀ i, validIdx sa i → validIdx sy (ψ i))
    (hψφ : ∀ j, validIdx sy j → ψ (φ j) = j)
    (hφψ : ∀ i, validIdx sa i → φ (ψ i) = i)
    (g : NDArray R) : scatterAdd sa sy φ g = gather sa ψ g := by
  apply ext_get _ _ (scatterAdd_wf _ _ _ _) (gather_wf _ _ _) rfl
  intro i hi
  change validIdx sa i at hi
  rw [get_scatterAdd _ _ _ _ _ hi, get_gather _ _ _ _ hi,
    fibre_eq_singleton sy φ i (ψ i) (hψ i hi) (hφψ i hi) fun j hj e => by rw [← e, hψφ j hj],
    List.map_singleton, List.sum_singleton]

theorem isAdjoint_of_gather_bij (sa sy : Shape) (φ ψ : Idx → Idx)
    (hφ : ∀ j, validIdx sy j → validIdx sa (φ j))
    (hψ : ∀ i, validIdx sa i → validIdx sy (ψ i))
    (hψφ : ∀ j, validIdx sy j → ψ (φ j) = j)
    (hφψ : ∀ i, validIdx sa i → φ (ψ i) = i)
    (F B : NDArray R → Option (NDArray R))
    (hF : ∀ v : NDArray R, v.WF → v.shape = sa → F v = some (gather sy φ v))
    (hB : ∀ g : NDArray R, g.WF → g.shape = sy → B g = some (gather sa ψ g)) :
    IsAdjoint sa sy F B :=
  isAdjoint_of_gather_scatter sa sy φ hφ F B hF fun g hg hgs => by
    rw [hB g hg hgs, scatterAdd_eq_gather_of_bij sa sy φ ψ hψ hψφ hφψ]

theorem isAdjoint_of_gather_spec (sa sy : Shape) (φ : Idx → Idx) (c : Idx → R)
    (hφ : ∀ j, validIdx sy j → validIdx sa (φ j)) (F B : NDArray R → Option (NDArray R))
    (hF : ∀ v : NDArray R, v.WF → v.shape = sa → ∃ y, F v = some y ∧ y.WF ∧ y.shape = sy ∧
      ∀ j, validIdx sy j → y.get j = v.get (φ j) * c j)
    (hB : ∀ g : NDArray R, g.WF → g.shape = sy → ∃ b, B g = some b ∧ b.WF ∧ b.shape = sa ∧
      ∀ i, validIdx sa i →
        b.get i = (((allIdx sy).filter (fun j => φ j == i)).map (fun j => c j * g.get j)).sum) :
    IsAdjoint sa sy F B := by
  intro v g hv hvs hg hgs
  obtain ⟨y, hFy, hy, hys, hyg⟩ := hF v hv hvs
  obtain ⟨b, hBb, hb, hbs, hbg⟩ := hB g hg hgs
  refine ⟨y, b, hFy, hBb, hy, hys, hb, hbs, ?_⟩
  have e1 : dot y g = dot (gather sy φ v) (ofFn sy (fun j => c j * g.get j)) := by
    apply dot_congr _ _ _ _ hys
    intro j hj
    rw [hys] at hj
    rw [hyg j hj, get_gather _ _ _ _ hj, get_ofFn _ _ _ hj, mul_assoc]
  rw [e1, gather_scatter_adjoint sa sy φ hφ v _ hvs]
  apply dot_congr _ _ _ _ rfl
  intro i hi
  rw [hvs] at hi
  rw [hbg i hi, get_scatterAdd _ _ _ _ _ hi]
  exact congrArg (v.get i * List.sum ·) (List.map_congr_left fun j hj =>
    get_ofFn _ _ _ ((mem_allIdx _ j).1 (List.mem_filter.1 hj).1))

theorem isAdjoint_of_embed_spec (sa sy : Shape) (φ ψ : Idx → Idx) (P : Idx → Prop) [DecidablePred P]
    (hφ : ∀ j, validIdx sy j → validIdx sa (φ j) ∧ P (φ j) ∧ ψ (φ j) = j)
    (hψ : ∀ i, validIdx sa i → P i → validIdx sy (ψ i) ∧ φ (ψ i) = i)
    (F B : NDArray R → Option (NDArray R))
    (hF : ∀ v : NDArray R, v.WF → v.shape = sa → ∃ y, F v = some y ∧ y.WF ∧ y.shape = sy ∧
      ∀ j, validIdx sy j → y.get j = v.get (φ j))
    (hB : ∀ g : NDArray R, g.WF → g.shape = sy → ∃ b, B g = some b ∧ b.WF ∧ b.shape = sa ∧
      ∀ i, validIdx sa i → b.get i = if P i then g.get (ψ i) else 0) :
    IsAdjoint sa sy F B := by
  apply isAdjoint_of_gather_spec sa sy φ (fun _ => 1) (fun j hj => (hφ j hj).1)
  · intro v hv hvs
    obtain ⟨y, h1, h2, h3, h4⟩ := hF v hv hvs
    exact ⟨y, h1, h2, h3, fun j hj => by rw [h4 j hj, mul_one]⟩
  · intro g hg hgs
    obtain ⟨b, h1, h2, h3, h4⟩ := hB g hg hgs
    refine ⟨b, h1, h2, h3, fun i hi => ?_⟩
    rw [h4 i hi]
    by_cases hP : P i
    · obtain ⟨hv, he⟩ := hψ i hi hP
      rw [if_pos hP, fibre_eq_singleton sy φ i (ψ i) hv he fun j hj e => by rw [← e, (hφ j hj).2.2],
        List.map_singleton, List.sum_singleton, one_mul]
    · rw [if_neg hP, List.filter_eq_nil_iff.2 fun j hj e => hP ?_]
      · rfl
      · rw [← beq_iff_eq.1 e]
        exact (hφ j ((mem_allIdx _ _).1 hj)).2.1

end Proofs.Adjoint
