import Proofs.VJPSoftmax
import Proofs.Subgradient
/-!
# Specification theorems for the nn kernels: softmax family and losses

Acceptance, shape and every entry of `softmax` / `log_softmax` along any axis (over ℝ), and of the unreduced
`mse`, `nll` and `cross_entropy` (same conventions as `SpecNN.lean`; fibre sums are `Finset` sums over `Finset.range`).
-/
namespace Proofs.SpecNN
open Synap Synap.NDArray Synap.Np Synap.Kernels Proofs.Core
open Finset

section Softmax
open Proofs.NL

section FM
variable {K : Type} [LinearOrder K]

theorem foldl_maxS (l : List K) (v : K) :
    (l.foldl (fun m x => maxS m x) v ∈ v :: l) ∧ ∀ x ∈ v :: l, x ≤ l.foldl (fun m x => maxS m x) v := by
  -- `maxS m x` unfolds to `if m < x then x else m`: the step of `foldl_best_spec` for `≤`, with `f := id`
  have := Proofs.Subgrad.foldl_best_spec (· ≤ ·) le_total (fun _ _ _ => le_trans) (fun x y => decide (y < x))
    (fun x y => by rw [decide_eq_true_eq, not_le]) id l v
  simp only [decide_eq_true_eq, id] at this
  exact this

theorem fibreMax_is_max [Zero K] (a : NDArray K) (ax : Nat) (i : Idx) (hn : a.shape.getD ax 0 ≠ 0) :
    (∃ t, t < a.shape.getD ax 0 ∧ fibreMax a ax i = a.get (i.set ax t)) ∧
    ∀ t, t < a.shape.getD ax 0 → a.get (i.set ax t) ≤ fibreMax a ax i := by
  unfold fibreMax
  obtain ⟨h1, h2⟩ := foldl_maxS ((List.range (a.shape.getD ax 0)).map (fun t => a.get (i.set ax t))) (a.get (i.set ax 0))
  refine ⟨?_, ?_⟩
  · rcases List.mem_cons.1 h1 with e | e
    · exact ⟨0, Nat.pos_of_ne_zero hn, e⟩
    · obtain ⟨t, ht, he⟩ := List.mem_map.1 e
      exact ⟨t, List.mem_range.1 ht, he.symm⟩
  · intro t ht
    exact h2 _ (List.mem_cons_of_mem _ (List.mem_map.2 ⟨t, List.mem_range.2 ht, rfl⟩))
end FM

/-- **softmax / log_softmax: acceptance.**  Accepted exactly when `dim` normalises to an axis of the
    operand (`-ndim ≤ dim < ndim`) and that axis is not empty — or the operand is 0-d and `dim` is `0` / `-1`
    (NumPy's `max` / `sum` reductions accept exactly these two int axes on a 0-d array and reduce nothing;
    every other `dim` is rejected for a 0-d operand: `softmax_zero_dim_accepts`). -/
theorem softmax_accepts_iff (a : NDArray ℝ) (axis : Int) :
    ((∃ y, softmaxForward a axis = some y) ↔
      (a.shape = [] ∧ (axis = 0 ∨ axis = -1)) ∨
      ∃ ax, normAxis a.shape.length axis = some ax ∧ a.shape.getD ax 0 ≠ 0) ∧
    ((∃ y, logSoftmaxForward a axis = some y) ↔
      (a.shape = [] ∧ (axis = 0 ∨ axis = -1)) ∨
      ∃ ax, normAxis a.shape.length axis = some ax ∧ a.shape.getD ax 0 ≠ 0) := by
  refine ⟨⟨fun ⟨y, h⟩ => ?_, ?_⟩, ⟨fun ⟨y, h⟩ => ?_, ?_⟩⟩
  · by_cases h0 : zeroDimAxis a.shape axis
    · exact Or.inl h0
    · exact Or.inr (sm_softmaxForward_some a y axis h0 h)
  · rintro (h0 | ⟨ax, h1, h2⟩)
    · exact ⟨_, sm_softmaxForward_zero a axis h0⟩
    · exact ⟨_, sm_softmaxForward_eq a axis ax h1 h2⟩
  · by_cases h0 : zeroDimAxis a.shape axis
    · exact Or.inl h0
    · exact Or.inr (sm_logSoftmaxForward_some a y axis h0 h)
  · rintro (h0 | ⟨ax, h1, h2⟩)
    · exact ⟨_, sm_logSoftmaxForward_zero a axis h0⟩
    · exact ⟨_, sm_logSoftmaxForward_eq a axis ax h1 h2⟩

/-- on a 0-d operand `softmax` / `log_softmax` accept exactly `dim = 0` and `dim = −1`
    (instance of `softmax_accepts_iff`) -/
theorem softmax_zero_dim_accepts (x : NDArray ℝ) (hs : x.shape = []) (d : Int) :
    ((∃ y, softmaxForward x d = some y) ↔ d = 0 ∨ d = -1) ∧
    ((∃ y, logSoftmaxForward x d = some y) ↔ d = 0 ∨ d = -1) := by
  obtain ⟨h1, h2⟩ := softmax_accepts_iff x d
  rw [h1, h2]
  simp [hs]

/-- **softmax along any axis** (over ℝ).  Same shape as the operand; for every index `i`, with
    `i[ax ↦ t]` running over the fibre of `i` along the axis and `M = fibreMax` the maximum of that fibre
    (attained, dominating):
    `out[i] = exp(x[i] − M) / Σ_t exp(x[i[ax ↦ t]] − M)` (what is computed)
    `       = exp(x[i]) / Σ_t exp(x[i[ax ↦ t]])` (the unshifted definition);
    every entry is positive and every fibre sums to 1. -/
theorem softmax_spec (a y : NDArray ℝ) (axis : Int) (h : softmaxForward a axis = some y) :
    (a.shape = [] ∧ (axis = 0 ∨ axis = -1) ∧ y = ⟨[], [1]⟩) ∨
    ∃ ax, normAxis a.shape.length axis = some ax ∧ a.shape.getD ax 0 ≠ 0 ∧ y.shape = a.shape ∧ y.WF ∧
      ∀ i, validIdx a.shape i →
        ((∃ t, t < a.shape.getD ax 0 ∧ fibreMax a ax i = a.get (i.set ax t)) ∧
          ∀ t, t < a.shape.getD ax 0 → a.get (i.set ax t) ≤ fibreMax a ax i) ∧
        y.get i = Real.exp (a.get i - fibreMax a ax i) /
          ∑ t ∈ range (a.shape.getD ax 0), Real.exp (a.get (i.set ax t) - fibreMax a ax i) ∧
        y.get i = Real.exp (a.get i) / ∑ t ∈ range (a.shape.getD ax 0), Real.exp (a.get (i.set ax t)) ∧
        0 < y.get i ∧
        ∑ t ∈ range (a.shape.getD ax 0), y.get (i.set ax t) = 1 := by
  by_cases h0 : zeroDimAxis a.shape axis
  · left
    rw [sm_softmaxForward_zero a axis h0] at h
    exact ⟨h0.1, h0.2, (Option.some.inj h).symm⟩
  right
  obtain ⟨ax, hax, hn⟩ := sm_softmaxForward_some a y axis h0 h
  have hy := sm_softmaxForward_eq a axis ax hax hn
  rw [h] at hy
  have hy' := Option.some.inj hy
  refine ⟨ax, hax, hn, by rw [hy']; rfl, by rw [hy']; exact ofFn_wf _ _, ?_⟩
  intro i hi
  have hget : ∀ j, validIdx a.shape j → y.get j = sm_sig a.get (a.shape.getD ax 0) ax j := by
    intro j hj; rw [hy', get_ofFn _ _ _ hj]
  have hS := sm_S_pos a.get (a.shape.getD ax 0) ax i hn
  have hunshift : y.get i = Real.exp (a.get i) / ∑ t ∈ range (a.shape.getD ax 0), Real.exp (a.get (i.set ax t)) := by
    rw [hget i hi]; rfl
  refine ⟨fibreMax_is_max a ax i hn, ?_, hunshift, ?_, ?_⟩
  · rw [hget i hi, ← sm_softmax_fn a ax i, sm_fibreSum_eq]
    simp only [sm_fibreMax_set]
    rfl
  · rw [hget i hi]; exact div_pos (Real.exp_pos _) hS
  · have : ∀ t ∈ range (a.shape.getD ax 0), y.get (i.set ax t)
        = Real.exp (a.get (i.set ax t)) / sm_S a.get (a.shape.getD ax 0) ax i := by
      intro t ht
      rw [hget _ (validIdx_set a.shape i ax t hi (Finset.mem_range.1 ht))]
      unfold sm_sig
      rw [sm_S_set]
    rw [Finset.sum_congr rfl this, ← Finset.sum_div]
    exact div_self hS.ne'

/-- **log_softmax along any axis** (over ℝ).  Same shape; for every index `i`
    `out[i] = x[i] − (M + log Σ_t exp(x[i[ax ↦ t]] − M))` (what is computed, `M` the fibre maximum)
    `       = x[i] − log Σ_t exp(x[i[ax ↦ t]])` (log-sum-exp), and `exp(out[i])` is the softmax entry. -/
theorem log_softmax_spec (a y : NDArray ℝ) (axis : Int) (h : logSoftmaxForward a axis = some y) :
    (a.shape = [] ∧ (axis = 0 ∨ axis = -1) ∧ y = ⟨[], [0]⟩) ∨
    ∃ ax, normAxis a.shape.length axis = some ax ∧ a.shape.getD ax 0 ≠ 0 ∧ y.shape = a.shape ∧ y.WF ∧
      ∀ i, validIdx a.shape i →
        y.get i = a.get i - (fibreMax a ax i +
          Real.log (∑ t ∈ range (a.shape.getD ax 0), Real.exp (a.get (i.set ax t) - fibreMax a ax i))) ∧
        y.get i = a.get i - Real.log (∑ t ∈ range (a.shape.getD ax 0), Real.exp (a.get (i.set ax t))) ∧
        Real.exp (y.get i) = Real.exp (a.get i) / ∑ t ∈ range (a.shape.getD ax 0), Real.exp (a.get (i.set ax t)) := by
  by_cases h0 : zeroDimAxis a.shape axis
  · left
    rw [sm_logSoftmaxForward_zero a axis h0] at h
    exact ⟨h0.1, h0.2, (Option.some.inj h).symm⟩
  right
  obtain ⟨ax, hax, hn⟩ := sm_logSoftmaxForward_some a y axis h0 h
  have hy := sm_logSoftmaxForward_eq a axis ax hax hn
  rw [h] at hy
  have hy' := Option.some.inj hy
  refine ⟨ax, hax, hn, by rw [hy']; rfl, by rw [hy']; exact ofFn_wf _ _, ?_⟩
  intro i hi
  have hget : y.get i = sm_ls a.get (a.shape.getD ax 0) ax i := by
    rw [hy', get_ofFn _ _ _ hi]
  refine ⟨?_, by rw [hget]; rfl, ?_⟩
  · rw [hget, ← sm_logsoftmax_fn a ax i hn, sm_fibreSum_eq]
    rfl
  · rw [hget, sm_exp_ls _ _ _ _ hn]; rfl

example : ∃ y, softmaxForward (⟨[2, 2], [1, 2, 3, 4]⟩ : NDArray ℝ) (-1) = some y :=
  (softmax_accepts_iff _ _).1.2 (Or.inr ⟨1, rfl, by decide⟩)

example : ∃ y, logSoftmaxForward (⟨[2, 2], [1, 2, 3, 4]⟩ : NDArray ℝ) 0 = some y :=
  (softmax_accepts_iff _ _).2.2 (Or.inr ⟨0, rfl, by decide⟩)

/-! non-vacuity of the 0-d branch: the accepted calls (value, gradient), the rejected neighbours -/
example : softmaxForward (⟨[], [3]⟩ : NDArray ℝ) 0 = some ⟨[], [1]⟩ := softmax_zero_dim _ rfl 0 (Or.inl rfl)
example : logSoftmaxForward (⟨[], [3]⟩ : NDArray ℝ) (-1) = some ⟨[], [0]⟩ := log_softmax_zero_dim _ rfl (-1) (Or.inr rfl)
example : softmaxBackward (⟨[], [5]⟩ : NDArray ℝ) ⟨[], [1]⟩ (-1) = some ⟨[], [0]⟩ :=
  softmax_zero_dim_grad ⟨[], [3]⟩ _ _ rfl (-1) (Or.inr rfl) (softmax_zero_dim _ rfl (-1) (Or.inr rfl))
example : logSoftmaxBackward (⟨[], [5]⟩ : NDArray ℝ) ⟨[], [0]⟩ 0 = some ⟨[], [0]⟩ :=
  log_softmax_zero_dim_grad ⟨[], [3]⟩ _ _ rfl 0 (Or.inl rfl) (log_softmax_zero_dim _ rfl 0 (Or.inl rfl))
example : softmaxForward (⟨[], [3]⟩ : NDArray ℝ) 1 = none :=
  Option.eq_none_iff_forall_ne_some.2 fun y hy =>
    absurd ((softmax_zero_dim_accepts (⟨[], [3]⟩ : NDArray ℝ) rfl 1).1.1 ⟨y, hy⟩) (by decide)
example : logSoftmaxForward (⟨[], [3]⟩ : NDArray ℝ) (-2) = none :=
  Option.eq_none_iff_forall_ne_some.2 fun y hy =>
    absurd ((softmax_zero_dim_accepts (⟨[], [3]⟩ : NDArray ℝ) rfl (-2)).2.1 ⟨y, hy⟩) (by decide)

end Softmax

section Losses
open Proofs.NL
variable {R : Type} [CommRing R]

/-- **mse (unreduced)**: accepted exactly for operands of equal shape (no broadcasting); same shape;
    `out[i] = (p[i] − t[i])²`.  (The `mean` / `sum` reduction is the tensor-level op.) -/
theorem mse_spec (p t : NDArray R) (hp : p.WF) (ht : t.WF) :
    ((∃ y, mseForward p t = some y) ↔ p.shape = t.shape) ∧
    ∀ y, mseForward p t = some y → y.shape = p.shape ∧ y.WF ∧
      ∀ i, validIdx p.shape i → y.get i = (p.get i - t.get i) * (p.get i - t.get i) := by
  refine ⟨⟨fun ⟨y, hy⟩ => (Option.ite_none_right_eq_some.1 hy).1, fun hs => ⟨_, if_pos hs⟩⟩, fun y hy => ?_⟩
  obtain ⟨hs, hy⟩ := Option.ite_none_right_eq_some.1 hy
  obtain rfl := Option.some.inj hy
  exact ⟨rfl, Proofs.Calc.zipSame_wf _ _ _ hp ht hs, fun i hi => Proofs.Calc.get_zipSame _ _ _ hp ht hs i hi⟩

/-- **nll: acceptance.**  Predictions must be 2-d `(N, C)`, with exactly `N` labels, all `< C`. -/
theorem nll_accepts_iff (p : NDArray R) (labels : List Nat) :
    (∃ y, nllForward p labels = some y) ↔
      ∃ n c, p.shape = [n, c] ∧ labels.length = n ∧ ∀ l ∈ labels, l < c := by
  constructor
  · rintro ⟨y, h⟩
    obtain ⟨n, c, h1, h2, h3, -⟩ := Proofs.Adjoint.nll_inv p y labels h
    exact ⟨n, c, h1, h2, h3⟩
  · rintro ⟨n, c, hps, hl, hall⟩
    exact ⟨_, Proofs.Adjoint.nll_some p labels hps hl hall⟩

example : (mseForward (⟨[2], [3, 5]⟩ : NDArray Int) ⟨[2], [1, 1]⟩).map (·.data) = some [4, 16] := by decide

example : (nllForward (⟨[2, 2], [1, 2, 3, 4]⟩ : NDArray Int) [1, 0]).map (·.data) = some [-2, -3] := by decide

/-- **nll (unreduced)**: shape `(N,)`, `out[n] = −p[n, label_n]`, the label being a valid column. -/
theorem nll_forward_spec {R : Type} [CommRing R] (p y : NDArray R) (labels : List Nat) (h : nllForward p labels = some y) :
    ∃ n c, p.shape = [n, c] ∧ labels.length = n ∧ y.shape = [n] ∧ y.WF ∧
      ∀ i, i < n → labels.getD i 0 < c ∧ y.get [i] = - p.get [i, labels.getD i 0] := by
  obtain ⟨n, c, hs, hl, hall, rfl⟩ := Proofs.Adjoint.nll_inv p y labels h
  refine ⟨n, c, hs, hl, rfl, ofFn_wf _ _, fun i hi => ⟨Proofs.Adjoint.nll_label_lt hl hall hi, ?_⟩⟩
  rw [get_ofFn _ _ _ (by simp [validIdx, hi])]
  rfl

/-- **cross-entropy (unreduced, over ℝ)**: accepted exactly for 2-d logits `(N, C)` with `C ≠ 0`,
    exactly `N` labels, all `< C` (corner: `C = 0` is rejected even when `N = 0`, because the
    log-softmax step refuses an empty axis).  Shape `(N,)` and
    `out[n] = −(x[n, label_n] − log Σ_{j<C} exp x[n, j])`
    `       = −(x[n, label_n] − (M + log Σ_j exp(x[n, j] − M)))`, `M` the maximum of row `n`. -/
theorem cross_entropy_spec (x : NDArray ℝ) (labels : List Nat) :
    ((∃ y, crossEntropyForward x labels = some y) ↔
      ∃ n c, x.shape = [n, c] ∧ c ≠ 0 ∧ labels.length = n ∧ ∀ l ∈ labels, l < c) ∧
    ∀ y, crossEntropyForward x labels = some y →
      ∃ n c, x.shape = [n, c] ∧ y.shape = [n] ∧ y.WF ∧
        ∀ i, i < n →
          y.get [i] = -(x.get [i, labels.getD i 0] - Real.log (∑ j ∈ range c, Real.exp (x.get [i, j]))) ∧
          y.get [i] = -(x.get [i, labels.getD i 0] - (fibreMax x 1 [i, labels.getD i 0] +
            Real.log (∑ j ∈ range c, Real.exp (x.get [i, j] - fibreMax x 1 [i, labels.getD i 0])))) := by
  -- an accepted call is `nll` of the row-wise `log_softmax`, whose entries `log_softmax_spec` gives
  have hinv : ∀ y, crossEntropyForward x labels = some y →
      ∃ (n c : Nat) (ls : NDArray ℝ), x.shape = [n, c] ∧ c ≠ 0 ∧ labels.length = n ∧ (∀ l ∈ labels, l < c) ∧
        (∀ i j, i < n → j < c →
          ls.get [i, j] = x.get [i, j] - (fibreMax x 1 [i, j] +
            Real.log (∑ t ∈ range c, Real.exp (x.get [i, t] - fibreMax x 1 [i, j]))) ∧
          ls.get [i, j] = x.get [i, j] - Real.log (∑ t ∈ range c, Real.exp (x.get [i, t]))) ∧
        y = ofFn [n] (fun i => - ls.get [getI i 0, labels.getD (getI i 0) 0]) := by
    intro y h
    rw [crossEntropyForward_eq] at h
    split_ifs at h
    obtain ⟨ls, hls, h⟩ := Option.bind_eq_some_iff.1 h
    obtain ⟨n, c, hs, hl, hall, hy⟩ := Proofs.Adjoint.nll_inv ls y labels h
    obtain ⟨-, h01, -⟩ | ⟨ax, hax, hn, hlss, -, hlsget⟩ := log_softmax_spec x ls 1 hls
    · exact absurd h01 (by decide)
    rw [hlss] at hs
    rw [hs] at hax hn
    obtain rfl : ax = 1 := (Option.some.inj hax).symm
    refine ⟨n, c, ls, hs, by simpa using hn, hl, hall, fun i j hi hj => ?_, hy⟩
    obtain ⟨e1, e2, -⟩ := hlsget [i, j] (by rw [hs]; exact ⟨hi, hj, trivial⟩)
    rw [hs] at e1 e2
    exact ⟨e1, e2⟩
  refine ⟨⟨?_, ?_⟩, ?_⟩
  · rintro ⟨y, h⟩
    obtain ⟨n, c, ls, h1, h2, h3, h4, -, -⟩ := hinv y h
    exact ⟨n, c, h1, h2, h3, h4⟩
  · rintro ⟨n, c, hs, hc, hl, hall⟩
    rw [crossEntropyForward_eq, if_pos (by rw [hs]; rfl),
      sm_logSoftmaxForward_eq x 1 1 (by rw [hs]; rfl) (by rw [hs]; simpa using hc), Option.bind_some]
    exact (nll_accepts_iff _ labels).2 ⟨n, c, hs, hl, hall⟩
  · intro y h
    obtain ⟨n, c, ls, hs, -, hl, hall, hls, rfl⟩ := hinv y h
    refine ⟨n, c, hs, rfl, ofFn_wf _ _, fun i hi => ?_⟩
    obtain ⟨e1, e2⟩ := hls i _ hi (Proofs.Adjoint.nll_label_lt hl hall hi)
    rw [get_ofFn _ _ _ (by simp [validIdx, hi])]
    exact ⟨congrArg Neg.neg e2, congrArg Neg.neg e1⟩

example : ∃ y, crossEntropyForward (⟨[2, 2], [1, 2, 3, 4]⟩ : NDArray ℝ) [0, 1] = some y :=
  (cross_entropy_spec _ _).1.2 ⟨2, 2, rfl, by decide, rfl, by decide⟩

end Losses

end Proofs.SpecNN
