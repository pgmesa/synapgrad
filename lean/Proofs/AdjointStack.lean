import Proofs.AdjointGeneral
/-!
# One axis inserted or removed

`insertAt` against `eraseIdx` on shapes and indices, `unbind` / `stack` in closed form, and the adjoint pair
"take along an axis / place at a position" that is behind both.
-/
namespace Proofs.Adjoint
open Synap Synap.NDArray Synap.Np Proofs.Core

section ListLemmas
variable {α : Type}

theorem insertAt_zero (l : List α) (x : α) : insertAt l 0 x = x :: l := rfl
theorem insertAt_succ_cons (y : α) (l : List α) (a : Nat) (x : α) :
    insertAt (y :: l) (a + 1) x = y :: insertAt l a x := rfl

theorem length_insertAt (l : List α) (a : Nat) (x : α) : (insertAt l a x).length = l.length + 1 := by
  rw [insertAt, List.length_append, List.length_cons, ← Nat.add_assoc, ← List.length_append, List.take_append_drop]

theorem dropAxes_single (l : List α) (a : Nat) : dropAxes l [a] = l.eraseIdx a := by
  cases l with
  | nil => rfl
  | cons x l => rw [dropAxes_eq_maskFrom _ _ x, ← maskFrom_single x 0 a, Nat.zero_add]

/-- `Np.concatenate` and `concatBackward` replace one entry of a shape or index through `zipIdx` -/
theorem zipIdx_map_modify (f : α → α) (l : List α) (a : Nat) :
    l.zipIdx.map (fun (p : α × Nat) => if p.2 = a then f p.1 else p.1) = l.modify a f := by
  apply List.ext_getElem
  · rw [List.length_map, List.length_zipIdx, List.length_modify]
  · intro i h1 h2
    rw [List.getElem_map, List.getElem_zipIdx, List.getElem_modify, Nat.zero_add]
    by_cases h : a = i
    · rw [if_pos h, if_pos h.symm]
    · rw [if_neg h, if_neg (Ne.symm h)]

theorem eraseIdx_insertAt (l : List α) (a : Nat) (x : α) (h : a ≤ l.length) :
    (insertAt l a x).eraseIdx a = l := by
  rw [insertAt_eq_insertIdx l a x h, List.eraseIdx_insertIdx_self]

theorem getD_insertAt (l : List α) (a : Nat) (x d : α) (h : a ≤ l.length) :
    (insertAt l a x).getD a d = x := by
  rw [insertAt_eq_insertIdx l a x h, List.getD_eq_getElem?_getD, List.getElem?_insertIdx_self, if_pos h]
  rfl

theorem insertAt_eraseIdx (l : List α) (a : Nat) (d : α) (h : a < l.length) :
    insertAt (l.eraseIdx a) a (l.getD a d) = l := by
  rw [insertAt_eq_insertIdx _ _ _ (by rw [List.length_eraseIdx_of_lt h]; exact Nat.le_sub_one_of_lt h),
    List.getD_eq_getElem?_getD, List.getElem?_eq_getElem h, Option.getD_some,
    List.insertIdx_eraseIdx_getElem h]

theorem modify_insertAt (f : α → α) (l : List α) (a : Nat) (x : α) (h : a ≤ l.length) :
    (insertAt l a x).modify a f = insertAt l a (f x) := by
  have hl : (l.take a).length = a := List.length_take_of_le h
  unfold insertAt
  rw [List.modify_eq_take_drop, List.take_left' hl, List.drop_left' hl]
  rfl

theorem insertAt_injective_right (l : List α) (a : Nat) (x x' : α) (h : insertAt l a x = insertAt l a x') :
    x = x' := by
  simp only [insertAt] at h
  have := List.append_cancel_left h
  exact (List.cons.inj this).1

end ListLemmas

theorem validIdx_eraseIdx (s : Shape) (i : Idx) (a : Nat) (h : validIdx s i) :
    validIdx (s.eraseIdx a) (i.eraseIdx a) := by
  rw [validIdx_iff_forall₂] at *
  rw [List.eraseIdx_eq_take_drop_succ, List.eraseIdx_eq_take_drop_succ]
  exact List.rel_append (List.forall₂_take a h) (List.forall₂_drop (a + 1) h)

theorem validIdx_insertAt (r : Shape) (q : Idx) (a n t : Nat) (h : validIdx r q) (ht : t < n) :
    validIdx (insertAt r a n) (insertAt q a t) := by
  rw [validIdx_iff_forall₂] at *
  exact List.rel_append (List.forall₂_take a h) (.cons ht (List.forall₂_drop a h))

theorem validIdx_insertAt_iff (r : Shape) (a n : Nat) (ha : a ≤ r.length) (i : Idx) :
    validIdx (insertAt r a n) i ↔
      ∃ q t, i = insertAt q a t ∧ validIdx r q ∧ t < n := by
  constructor
  · intro h
    have hl := validIdx_length _ _ h
    rw [length_insertAt] at hl
    have hv := validIdx_eraseIdx _ _ a h
    rw [eraseIdx_insertAt r a n ha] at hv
    have hg := validIdx_getD _ _ a h (by rw [length_insertAt]; exact Nat.lt_succ_of_le ha)
    rw [getD_insertAt r a n 0 ha] at hg
    exact ⟨i.eraseIdx a, i.getD a 0, (insertAt_eraseIdx i a 0 (hl ▸ Nat.lt_succ_of_le ha)).symm, hv, hg⟩
  · rintro ⟨q, t, rfl, hq, ht⟩
    exact validIdx_insertAt r q a n t hq ht

section Stack
variable {α : Type} [Zero α]

theorem unbind_get (x : NDArray α) (axis : Int) (k : Nat) :
    (unbind x axis).bind (·[k]?) = (normAxis x.shape.length axis).bind fun a =>
      if k < x.shape.getD a 0 then some (take x a k) else none := by
  show ((normAxis x.shape.length axis).bind _).bind _ = _
  cases normAxis x.shape.length axis with
  | none => rfl
  | some a =>
    show ((List.range (x.shape.getD a 0)).map (take x a))[k]? = _
    by_cases hk : k < x.shape.getD a 0
    · rw [List.getElem?_map, List.getElem?_range hk]
      exact (if_pos hk).symm
    · rw [List.getElem?_eq_none (by rw [List.length_map, List.length_range]; exact Nat.not_lt.1 hk)]
      exact (if_neg hk).symm

theorem stack_cons (x0 : NDArray α) (r : List (NDArray α)) (axis : Int) :
    stack (x0 :: r) axis = (normAxis (x0.shape.length + 1) axis).bind (fun a =>
      if (x0 :: r).all (fun x => x.shape == x0.shape) then
        some (ofFn (insertAt x0.shape a (r.length + 1)) (fun j =>
          match (x0 :: r)[getI j a]? with
          | some x => x.get (dropAxes j [a])
          | none => 0))
      else none) := by
  show (normAxis (x0.shape.length + 1) axis).bind _ = _
  cases normAxis (x0.shape.length + 1) axis with
  | none => rfl
  | some a =>
    cases (x0 :: r).all (fun x => x.shape == x0.shape) <;> rfl

theorem stack_inv (xs : List (NDArray α)) (axis : Int) (y : NDArray α) (h : stack xs axis = some y) :
    ∃ s0 a0, xs ≠ [] ∧ (∀ x ∈ xs, x.shape = s0) ∧ normAxis (s0.length + 1) axis = some a0 ∧
      y.shape = insertAt s0 a0 xs.length := by
  cases xs with
  | nil => cases h
  | cons x0 r =>
    rw [stack_cons] at h
    obtain ⟨a0, hn, h⟩ := Option.bind_eq_some_iff.1 h
    split_ifs at h with hall
    rw [← Option.some.inj h]
    exact ⟨x0.shape, a0, List.cons_ne_nil _ _, fun x hx => eq_of_beq (List.all_eq_true.1 hall x hx), hn, rfl⟩

theorem stack_some (xs : List (NDArray α)) (axis : Int) (s0 : Shape) (a0 n : Nat) (hne : xs ≠ [])
    (hall : ∀ x ∈ xs, x.shape = s0) (hn : normAxis (s0.length + 1) axis = some a0) (hl : xs.length = n) :
    stack xs axis = some (ofFn (insertAt s0 a0 n) (fun j =>
      match xs[getI j a0]? with
      | some x => x.get (dropAxes j [a0])
      | none => 0)) := by
  cases xs with
  | nil => exact absurd rfl hne
  | cons x0 r =>
    have h0 : x0.shape = s0 := hall x0 List.mem_cons_self
    subst hl
    rw [stack_cons, h0, hn, Option.bind_some, if_pos]
    · rfl
    · exact List.all_eq_true.2 fun x hx => beq_iff_eq.2 (hall x hx)

/-- `(xs.map zeros).set k v` is how `stack_vjp` / `concat_vjp` hold the operands other than `k` at zero -/
theorem set_zeros_ne_nil (xs : List (NDArray α)) (k : Nat) (v : NDArray α) (hk : k < xs.length) :
    (xs.map (fun x => (zeros x.shape : NDArray α))).set k v ≠ [] :=
  List.ne_nil_of_length_pos (by rw [List.length_set, List.length_map]; exact Nat.zero_lt_of_lt hk)

theorem forall_mem_set_zeros (xs : List (NDArray α)) (k : Nat) (v : NDArray α) (P : Shape → Prop)
    (hxs : ∀ x ∈ xs, P x.shape) (hv : P v.shape) :
    ∀ x ∈ (xs.map (fun x => (zeros x.shape : NDArray α))).set k v, P x.shape := by
  intro x hx
  rcases List.mem_or_eq_of_mem_set hx with hx | rfl
  · obtain ⟨x', hx', rfl⟩ := List.mem_map.1 hx
    exact hxs x' hx'
  · exact hv

theorem get_set_zeros (xs : List (NDArray α)) (k : Nat) (v : NDArray α) (hk : k < xs.length) (t : Nat)
    (q : Idx) :
    (match ((xs.map (fun x => (zeros x.shape : NDArray α))).set k v)[t]? with
      | some x => x.get q
      | none => 0) = if t = k then v.get q else 0 := by
  rw [List.getElem?_set]
  by_cases e : k = t
  · subst e
    simp [hk]
  · have e' : ¬ t = k := fun h => e h.symm
    simp only [e, e', if_false, List.getElem?_map]
    cases xs[t]? with
    | none => rfl
    | some x => exact get_zeros _ _

theorem map_set_zeros {β : Type} (f : Shape → β) (xs : List (NDArray α)) (k : Nat) (xk v : NDArray α)
    (hk : xs[k]? = some xk) (hv : f v.shape = f xk.shape) :
    ((xs.map (fun x => (zeros x.shape : NDArray α))).set k v).map (fun x => f x.shape)
      = xs.map (fun x => f x.shape) := by
  obtain ⟨hkl, rfl⟩ := List.getElem?_eq_some_iff.1 hk
  rw [List.map_set, List.map_map, hv]
  exact (congrArg _ (List.getElem_map _).symm).trans (List.set_getElem_self (by rwa [List.length_map]))

theorem stack_set_zeros (xs : List (NDArray α)) (axis : Int) (s0 : Shape) (a0 : Nat)
    (hall : ∀ x ∈ xs, x.shape = s0) (hn : normAxis (s0.length + 1) axis = some a0) (k : Nat) (v : NDArray α)
    (hk : k < xs.length) (hv : v.shape = s0) :
    stack ((xs.map (fun x => (zeros x.shape : NDArray α))).set k v) axis =
      some (ofFn (insertAt s0 a0 xs.length) fun i => if getI i a0 = k then v.get (dropAxes i [a0]) else 0) :=
  (stack_some _ axis s0 a0 xs.length (set_zeros_ne_nil xs k v hk) (forall_mem_set_zeros xs k v (· = s0) hall hv) hn
    (by rw [List.length_set, List.length_map])).trans
    (congrArg (fun f => some (ofFn _ f)) (funext fun i => get_set_zeros xs k v hk _ _))

end Stack

/-- `take` along an axis and "place at position `k` inside zeros" are transposes: `unbind` forward /
    backward, and `stack` backward / forward -/
theorem take_place_adj {R : Type} [CommSemiring R] (r : Shape) (a0 n k : Nat) (ha0 : a0 ≤ r.length)
    (hk : k < n) :
    IsAdjoint (R := R) (insertAt r a0 n) r (fun v => some (take v a0 k))
      (fun g => some (ofFn (insertAt r a0 n) fun i => if getI i a0 = k then g.get (dropAxes i [a0]) else 0)) := by
  apply isAdjoint_of_embed_spec (insertAt r a0 n) r (fun j => insertAt j a0 k) (fun i => dropAxes i [a0])
    (fun i => getI i a0 = k)
  · intro j hj
    have hjl : a0 ≤ j.length := by rw [validIdx_length _ _ hj]; exact ha0
    exact ⟨validIdx_insertAt r j a0 n k hj hk, getD_insertAt j a0 k 0 hjl,
      (dropAxes_single _ a0).trans (eraseIdx_insertAt j a0 k hjl)⟩
  · intro i hi hP
    obtain ⟨q, t, rfl, hq, -⟩ := (validIdx_insertAt_iff r a0 n ha0 i).1 hi
    have hql : a0 ≤ q.length := by rw [validIdx_length _ _ hq]; exact ha0
    obtain rfl : t = k := (getD_insertAt q a0 t 0 hql).symm.trans hP
    rw [dropAxes_single, eraseIdx_insertAt q a0 t hql]
    exact ⟨hq, rfl⟩
  · intro v _ hvs
    have hd : dropAxes v.shape [a0] = r := by rw [hvs, dropAxes_single, eraseIdx_insertAt _ _ _ ha0]
    exact ⟨_, rfl, gather_wf _ _ _, hd, fun j hj => by rw [take, hd, get_gather _ _ _ _ hj]⟩
  · intro g _ _
    exact ⟨_, rfl, ofFn_wf _ _, rfl, fun i hi => get_ofFn _ _ _ hi⟩

theorem unbind_stack {α : Type} [Zero α] (xs : List (NDArray α)) (hxs : ∀ x ∈ xs, x.WF) (axis : Int) (y : NDArray α)
    (h : stack xs axis = some y) : unbind y axis = some xs := by
  obtain ⟨s0, a0, hne, hall, hn, hys⟩ := stack_inv xs axis y h
  have ha0 : a0 ≤ s0.length := Nat.le_of_lt_succ (SpecOps.normAxis_lt hn)
  rw [stack_some xs axis s0 a0 xs.length hne hall hn rfl] at h
  have hy := (Option.some.inj h).symm
  unfold unbind
  rw [hys, length_insertAt, hn]
  simp only [Option.bind_eq_bind, Option.bind_some, Option.pure_def, Option.some.injEq,
    getD_insertAt _ _ _ _ ha0]
  apply List.ext_getElem (by simp)
  intro k h1 h2
  -- output `k` is a gather: its entry at `j` reads `y` at `insertAt j a0 k`, which `stack_some` gives as `xs[k].get j`
  simp only [List.getElem_map, List.getElem_range]
  have hk : k < xs.length := h2
  have hs : xs[k].shape = s0 := hall _ (List.getElem_mem hk)
  have hds : dropAxes (insertAt s0 a0 xs.length) [a0] = s0 := by
    rw [dropAxes_single, eraseIdx_insertAt _ _ _ ha0]
  apply ext_get _ _ (gather_wf _ _ _) (hxs _ (List.getElem_mem hk))
  · show dropAxes y.shape [a0] = xs[k].shape
    rw [hys, hds, hs]
  · intro j hj
    have hj0 : validIdx s0 j := by
      rw [hys, hds] at hj
      exact hj
    have hjl : a0 ≤ j.length := by rw [validIdx_length _ _ hj0]; exact ha0
    rw [get_gather _ _ _ _ (by rw [hys, hds]; exact hj0), hy,
      get_ofFn _ _ _ (validIdx_insertAt s0 j a0 xs.length k hj0 hk)]
    simp only [getI, getD_insertAt _ _ _ _ hjl]
    have hxk : xs[k]? = some xs[k] := List.getElem?_eq_getElem hk
    rw [hxk]
    rw [dropAxes_single, eraseIdx_insertAt _ _ _ hjl]

end Proofs.Adjoint
