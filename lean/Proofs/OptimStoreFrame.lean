import Proofs.OptimStoreMoves
/-!
# Every transition and every history of `Synap.OptimStore` is a `Moves`

The engine's events (those that bind a gradient are one form, `gradAt`), the loop bodies of `SGD.step`
and `Adam.step` / `AdamW.step` (each a `StepLoop`), and then events and histories of `sgdEvG step` for
any `step` that is `StepOK`: SGD is `sgdEvG (sgdStep c)` by definition, Adam / AdamW is
`sgdEvG (adamStep c)` (`adamEv_eq`).
-/
namespace Proofs.OptimStore
open Synap.OptimStore
open Synap.Optim (SGDCfg AdamCfg HasSqrt)

variable {α : Type}

/-- The three engine transitions that give parameter `i` a gradient have one form: when the parameter
    requires grad, its gradient place is bound to the result `(heap, id)` of a statement. -/
def gradAt (s : Store α) (i : Nat) (r : PS → Heap α × BufId) : Store α :=
  match s.ps[i]? with
  | none => s
  | some p =>
    if p.rg then { s with heap := (r p).1, ps := s.ps.set i { p with grad := some (r p).2 } } else s

theorem zeroGradAt_eq [Zero α] (s : Store α) (i : Nat) :
    zeroGradAt s i = gradAt s i fun p => allocMap s.heap (fun _ => 0) p.data := rfl

theorem accumulateRoot_eq [Add α] (s : Store α) (i : Nat) (g : List α) :
    accumulateRoot s i g = gradAt s i fun p => match p.grad with
      | some gb => alloc s.heap (List.zipWith (· + ·) (rdBuf s.heap gb) g)
      | none => alloc s.heap g := rfl

/-- in place when there is a gradient; otherwise `zeros_like` followed by `+=` is one allocation -/
theorem accumulate_eq [Add α] [Zero α] (s : Store α) (i : Nat) (g : List α) :
    accumulate s i g = gradAt s i fun p => match p.grad with
      | some gb => (writeZipLit s.heap gb (· + ·) g, gb)
      | none => alloc s.heap (List.zipWith (· + ·) ((rdBuf s.heap p.data).map fun _ => 0) g) := by
  unfold accumulate gradAt
  cases hp : s.ps[i]? with
  | none => rfl
  | some p =>
    obtain ⟨d, gr, rg⟩ := p
    cases rg
    · rfl
    · cases gr with
      | none => simp only [allocMap, writeZipLit, alloc_snd, rdBuf_alloc_new, wrBuf_alloc_new]
      | some gb =>
        -- `x._grad += g` rebinds nothing: the record written back is the record that was there
        obtain ⟨hl, e⟩ := List.getElem?_eq_some_iff.mp hp
        simp only [← e, List.set_getElem_self]

theorem gradAt_moves {W : BufId → Prop} (s : Store α) (i : Nat) (r : PS → Heap α × BufId)
    (hr : ∀ p, s.ps[i]? = some p → Ext W s.heap (r p).1 ∧
      (p.grad = some (r p).2 ∨ (s.heap.length ≤ (r p).2 ∧ (r p).2 < (r p).1.length))) :
    Moves W (fun ro j => ro = .grad ∧ j = i) s (gradAt s i r) := by
  unfold gradAt
  split
  · exact Moves.refl _ _ s
  · rename_i p hp
    split
    · refine Moves.of_single (hr p hp).1 .grad i nofun ⟨rfl, rfl⟩ (fun ro j hn => ?_) fun x hx => ?_
      · rw [slot_setPS s _ hp, if_neg hn]
      · rw [slot_setPS s _ hp, if_pos ⟨rfl, rfl⟩] at hx
        cases hx
        exact (hr p hp).2.imp (slot_grad_of hp).trans id
    · exact Moves.refl _ _ s

theorem gradAt_rest (s : Store α) (j : Nat) (r : PS → Heap α × BufId) :
    ((gradAt s j r).b1 = s.b1 ∧ (gradAt s j r).b2 = s.b2 ∧ (gradAt s j r).steps = s.steps) ∧
    ∀ i, j ≠ i → (gradAt s j r).ps[i]? = s.ps[i]? := by
  unfold gradAt
  split
  · exact ⟨⟨rfl, rfl, rfl⟩, fun _ _ => rfl⟩
  · split
    · exact ⟨⟨rfl, rfl, rfl⟩, fun _ h => List.getElem?_set_ne h⟩
    · exact ⟨⟨rfl, rfl, rfl⟩, fun _ _ => rfl⟩

theorem accumulate_moves [Add α] [Zero α] (s : Store α) (i : Nat) (g : List α) :
    Moves (fun x => slot s .grad i = some x) (fun r j => r = .grad ∧ j = i) s (accumulate s i g) := by
  rw [accumulate_eq]
  refine gradAt_moves s i _ fun p hp => ?_
  cases hg : p.grad with
  | none => exact ⟨(ext_alloc _ _).weaken, Or.inr (alloc_fresh _ _)⟩
  | some gb =>
    exact ⟨(ext_writeZipLit s.heap gb _ g).mono fun x hx => by rw [hx, slot_grad_of hp, hg], Or.inl rfl⟩

theorem accumulateRoot_moves [Add α] (s : Store α) (i : Nat) (g : List α) :
    Moves (fun _ => False) (fun r j => r = .grad ∧ j = i) s (accumulateRoot s i g) :=
  accumulateRoot_eq s i g ▸ gradAt_moves s i _ fun _ _ => by
    split <;> exact ⟨ext_alloc _ _, Or.inr (alloc_fresh _ _)⟩

theorem zeroGradAt_moves [Zero α] (s : Store α) (i : Nat) :
    Moves (fun _ => False) (fun r j => r = .grad ∧ j = i) s (zeroGradAt s i) :=
  zeroGradAt_eq s i ▸ gradAt_moves s i _ fun _ _ => ⟨ext_alloc _ _, Or.inr (alloc_fresh _ _)⟩

theorem zeroGrad_moves [Zero α] (s : Store α) :
    Moves (fun _ => False) (fun r _ => r = .grad) s (zeroGrad s) ∧
    (zeroGrad s).b1 = s.b1 ∧ (zeroGrad s).b2 = s.b2 ∧ (zeroGrad s).steps = s.steps :=
  moves_foldl (fun s' => s'.b1 = s.b1 ∧ s'.b2 = s.b2 ∧ s'.steps = s.steps) zeroGradAt
    (fun s' j h =>
      have e := (gradAt_rest s' j _).1
      ⟨(zeroGradAt_moves s' j).mono (fun _ h => h) fun _ _ h => h.1,
        e.1.trans h.1, e.2.1.trans h.2.1, e.2.2.trans h.2.2⟩) _ s ⟨rfl, rfl, rfl⟩

theorem setRg_moves (s : Store α) (i : Nat) (b : Bool) :
    Moves (fun _ => False) (fun _ _ => False) s (setRg s i b) := by
  unfold setRg
  split
  · exact Moves.refl _ _ s
  · rename_i p hp
    refine Moves.of_same _ (Ext.refl _ _) fun r j => (slot_setPS s _ hp _ b r j).trans ?_
    split
    · rename_i c; rw [c.1, c.2]; exact (slot_grad_of hp).symm
    · rfl

theorem engine_moves [Add α] [Zero α] (step : Store α → Store α) (s : Store α) (e : Ev α) (he : e ≠ .step) :
    Moves (fun x => ∃ j, slot s .grad j = some x) (fun r _ => r = .grad) s (sgdEvG step s e) := by
  cases e with
  | backward i g => exact (accumulate_moves s i g).mono (fun _ h => ⟨i, h⟩) fun _ _ h => h.1
  | backwardRoot i g => exact (accumulateRoot_moves s i g).mono (fun _ => False.elim) fun _ _ h => h.1
  | zeroGrad => exact (zeroGrad_moves s).1.mono (fun _ => False.elim) fun _ _ h => h
  | setRg i b => exact (setRg_moves s i b).mono (fun _ => False.elim) fun _ _ => False.elim
  | step => exact absurd rfl he

theorem engine_frame [Add α] [Zero α] (step : Store α → Store α) {s : Store α} (hI : Inv s) (e : Ev α)
    (he : e ≠ .step) {r : Role} {j : Nat} {x : BufId} (hr : r ≠ .grad) (hx : slot s r j = some x) :
    slot (sgdEvG step s e) r j = some x ∧ rdBuf (sgdEvG step s e).heap x = rdBuf s.heap x :=
  (engine_moves step s e he).keeps hI hx hr fun ⟨j', h⟩ => hr (hI.sep r j .grad j' x hx h).1

section SGD
variable [Add α] [Sub α] [Mul α] [One α]
set_option linter.unusedSectionVars false

theorem sgdGrad_ext (c : SGDCfg α) (h : Heap α) (d gb : BufId) :
    Ext (fun _ => False) h (sgdGrad c h d gb).1 :=
  ext_ite _ (ext_allocZip _ _ _ _) (Ext.refl _ _)

theorem sgdBuf_ext (copy : Bool) (c : SGDCfg α) (h : Heap α) (g : BufId) (b : Option BufId) :
    Ext (fun _ => False) h (sgdBuf copy c h g b).1 := by
  cases b
  · exact ext_ite _ (ext_allocMap _ _ _) (Ext.refl _ _)
  · exact ext_allocZip _ _ _ _

theorem sgdBuf_true_snd (c : SGDCfg α) (h : Heap α) (g : BufId) (b : Option BufId) :
    (sgdBuf true c h g b).2 = h.length := by
  cases b <;> rfl

theorem sgdBuf_true_length (c : SGDCfg α) (h : Heap α) (g : BufId) (b : Option BufId) :
    (sgdBuf true c h g b).1.length = h.length + 1 := by
  cases b <;> exact alloc_length _ _

theorem sgdDir_ext (c : SGDCfg α) (h : Heap α) (g b : BufId) :
    Ext (fun _ => False) h (sgdDir c h g b).1 :=
  ext_ite _ (ext_allocZip _ _ _ _) (Ext.refl _ _)

theorem sgdApply_ext (c : SGDCfg α) (h : Heap α) (d g : BufId) : Ext (· = d) h (sgdApply c h d g) :=
  ext_writeZip _ _ _ _

theorem sgdStepAt_idle (c : SGDCfg α) {s : Store α} {i : Nat} (h : ¬ ∃ x, Active s i x) :
    sgdStepAt c s i = s := by
  unfold sgdStepAt sgdStepAtG
  split
  · rfl
  · rename_i p hp
    split
    · rename_i gb hrg hg; exact absurd ⟨_, p, gb, hp, hrg, hg, rfl⟩ h
    · rfl

theorem sgdStepAt_active (c : SGDCfg α) {s : Store α} {i : Nat} {p : PS} {gb : BufId}
    (hp : s.ps[i]? = some p) (hrg : p.rg = true) (hgr : p.grad = some gb) :
    sgdStepAt c s i =
      let r1 := sgdGrad c s.heap p.data gb
      if c.useMom then
        let r2 := sgdBuf true c r1.1 r1.2 (slot s .b1 i)
        let r3 := sgdDir c r2.1 r1.2 r2.2
        { s with heap := sgdApply c r3.1 p.data r3.2, b1 := s.b1.set i (some r2.2) }
      else
        { s with heap := sgdApply c r1.1 p.data r1.2 } := by
  simp only [sgdStepAt, sgdStepAtG, hp, hrg, hgr]

theorem sgd_loop (c : SGDCfg α) : StepLoop (sgdStepAt c) (· = .b1) := by
  refine .of_active (fun _ _ => sgdStepAt_idle c) fun s i p gb hp hrg hgr => ?_
  rw [sgdStepAt_active c hp hrg hgr]
  extract_lets r1 r2 r3
  have e1 : Ext (fun _ => False) s.heap r1.1 := sgdGrad_ext c s.heap p.data gb
  split
  · have e2 : Ext (fun _ => False) r1.1 r2.1 := sgdBuf_ext true c r1.1 r1.2 _
    have e3 : Ext (fun _ => False) r2.1 r3.1 := sgdDir_ext c r2.1 r1.2 r2.2
    have e4 := sgdApply_ext c r3.1 p.data r3.2
    have i2 : r2.2 = r1.1.length := sgdBuf_true_snd c r1.1 r1.2 _
    have hi : r2.2 < r2.1.length := by rw [i2, sgdBuf_true_length]; exact Nat.lt_succ_self _
    exact ⟨moves_setB1 s i ((e1.trans (e2.trans e3)).weaken.trans e4)
      ⟨i2 ▸ e1.1, Nat.lt_of_lt_of_le hi (Nat.le_trans e3.1 e4.1)⟩ ⟨rfl, rfl⟩,
      rfl, fun j h => ⟨List.getElem?_set_ne h, rfl, rfl⟩⟩
  · exact ⟨moves_setHeap _ s (e1.weaken.trans (sgdApply_ext c _ p.data _)), rfl, fun _ _ => ⟨rfl, rfl, rfl⟩⟩

theorem sgd_ok (c : SGDCfg α) : StepOK (sgdStep c) := (sgd_loop c).ok

end SGD

section Adam
variable [Add α] [Sub α] [Mul α] [Div α] [Neg α] [Zero α] [One α] [HPow α Nat α] [HasSqrt α]
set_option linter.unusedSectionVars false

theorem adamNeg_ext (c : AdamCfg α) (h : Heap α) (gb : BufId) :
    Ext (fun _ => False) h (adamNeg c h gb).1 :=
  ext_ite _ (ext_allocMap _ _ _) (Ext.refl _ _)

theorem adamDecay_ext (c : AdamCfg α) (h : Heap α) (d g : BufId) : Ext (· = d) h (adamDecay c h d g).1 :=
  ext_ite _ (ext_writeMap _ _ _) (ext_ite _ (ext_allocZip _ _ _ _).weaken (Ext.refl _ _))

theorem adamM1_ext (c : AdamCfg α) (h : Heap α) (g : BufId) (b : Option BufId) :
    Ext (fun _ => False) h (adamM1 c h g b).1 := by
  cases b <;> exact ext_alloc _ _

theorem adamM2_ext (c : AdamCfg α) (h : Heap α) (g : BufId) (b : Option BufId) :
    Ext (fun _ => False) h (adamM2 c h g b).1 := by
  cases b <;> exact ext_alloc _ _

theorem adamM1_snd (c : AdamCfg α) (h : Heap α) (g : BufId) (b : Option BufId) :
    (adamM1 c h g b).2 = h.length := by cases b <;> rfl
theorem adamM1_length (c : AdamCfg α) (h : Heap α) (g : BufId) (b : Option BufId) :
    (adamM1 c h g b).1.length = h.length + 1 := by cases b <;> exact alloc_length _ _
theorem adamM2_snd (c : AdamCfg α) (h : Heap α) (g : BufId) (b : Option BufId) :
    (adamM2 c h g b).2 = h.length := by cases b <;> rfl
theorem adamM2_length (c : AdamCfg α) (h : Heap α) (g : BufId) (b : Option BufId) :
    (adamM2 c h g b).1.length = h.length + 1 := by cases b <;> exact alloc_length _ _

theorem adamApply_ext (c : AdamCfg α) (t : Nat) (h : Heap α) (d m1 m2 : BufId) :
    Ext (· = d) h (adamApply c t h d m1 m2) :=
  (ext_allocZip _ _ _ _).weaken.trans (ext_writeZip _ _ _ _)

theorem adamStepAt_idle (c : AdamCfg α) {s : Store α} {i : Nat} (h : ¬ ∃ x, Active s i x) :
    adamStepAt c s i = s := by
  unfold adamStepAt
  split
  · rfl
  · rename_i p hp
    split
    · rename_i gb hrg hg; exact absurd ⟨_, p, gb, hp, hrg, hg, rfl⟩ h
    · rfl

theorem adamStepAt_active (c : AdamCfg α) {s : Store α} {i : Nat} {p : PS} {gb : BufId}
    (hp : s.ps[i]? = some p) (hrg : p.rg = true) (hgr : p.grad = some gb) :
    adamStepAt c s i =
      let t := (s.steps[i]?).getD 0 + 1
      let r1 := adamNeg c s.heap gb
      let r2 := adamDecay c r1.1 p.data r1.2
      let m1 := adamM1 c r2.1 r2.2 (slot s .b1 i)
      let m2 := adamM2 c m1.1 r2.2 (slot s .b2 i)
      { s with heap := adamApply c t m2.1 p.data m1.2 m2.2,
               b1 := s.b1.set i (some m1.2), b2 := s.b2.set i (some m2.2), steps := s.steps.set i t } := by
  simp only [adamStepAt, hp, hrg, hgr]

theorem adam_loop (c : AdamCfg α) : StepLoop (adamStepAt c) (fun r => r = .b1 ∨ r = .b2) := by
  refine .of_active (fun _ _ => adamStepAt_idle c) fun s i p gb hp hrg hgr => ?_
  rw [adamStepAt_active c hp hrg hgr]
  extract_lets t r1 r2 m1 m2
  have e1 : Ext (fun _ => False) s.heap r1.1 := adamNeg_ext c s.heap gb
  have e2 : Ext (· = p.data) r1.1 r2.1 := adamDecay_ext c r1.1 p.data r1.2
  have e3 : Ext (fun _ => False) r2.1 m1.1 := adamM1_ext c r2.1 r2.2 _
  have e4 : Ext (fun _ => False) m1.1 m2.1 := adamM2_ext c m1.1 r2.2 _
  have e5 := adamApply_ext c t m2.1 p.data m1.2 m2.2
  have i3 : m1.2 = r2.1.length := adamM1_snd c r2.1 r2.2 _
  have i4 : m2.2 = m1.1.length := adamM2_snd c m1.1 r2.2 _
  -- each moment is the last buffer of the heap its statement returns
  have hi1 : m1.2 < m1.1.length := by rw [i3, adamM1_length]; exact Nat.lt_succ_self _
  have hi2 : m2.2 < m2.1.length := by rw [i4, adamM2_length]; exact Nat.lt_succ_self _
  have lo1 : s.heap.length ≤ m1.2 := i3 ▸ Nat.le_trans e1.1 e2.1
  refine ⟨?_, rfl, fun j h => ⟨List.getElem?_set_ne h, List.getElem?_set_ne h, List.getElem?_set_ne h⟩⟩
  -- first `m1[i]` is rebound, in the heap where it has just been allocated, then `m2[i]`
  exact (moves_setB1 s i ((e1.weaken.trans e2).trans e3.weaken) ⟨lo1, hi1⟩ ⟨Or.inl rfl, rfl⟩).trans
    (moves_setB2 _ i _ (e4.weaken.trans e5) ⟨Nat.le_of_eq i4.symm, Nat.lt_of_lt_of_le hi2 e5.1⟩
      ⟨Or.inr rfl, rfl⟩)

theorem adam_ok (c : AdamCfg α) : StepOK (adamStep c) := (adam_loop c).ok

theorem adamEv_eq (c : AdamCfg α) (s : Store α) (e : Ev α) :
    adamEv c s e = sgdEvG (adamStep c) s e := rfl

theorem adamRun_eq (c : AdamCfg α) (s : Store α) (evs : List (Ev α)) :
    adamRun c s evs = evs.foldl (sgdEvG (adamStep c)) s := rfl

end Adam

section
variable [Add α] [Zero α]

theorem evG_moves {step : Store α → Store α} (hs : StepOK step) (s : Store α) (e : Ev α) :
    ∃ W C, Moves W C s (sgdEvG step s e) ∧ ∀ x, W x → ∃ r j, slot s r j = some x := by
  by_cases he : e = .step
  · subst he; exact hs s
  · exact ⟨_, _, engine_moves step s e he, fun x ⟨j, h⟩ => ⟨.grad, j, h⟩⟩

/-- the `W` that composes: what a later event overwrites was held at the start or allocated since -/
theorem run_moves {step : Store α → Store α} (hs : StepOK step) (evs : List (Ev α)) (s : Store α) :
    Moves (fun x => (∃ r j, slot s r j = some x) ∨ s.heap.length ≤ x) (fun _ _ => True) s
      (evs.foldl (sgdEvG step) s) := by
  induction evs generalizing s with
  | nil => exact Moves.refl _ _ s
  | cons e es ih =>
    obtain ⟨W, C, m, hW⟩ := evG_moves hs s e
    refine (m.mono (fun x w => Or.inl (hW x w)) fun _ _ _ => trivial).trans ((ih _).mono ?_ fun _ _ h => h)
    -- what the first event leaves in a place was there before or is fresh
    rintro x (⟨r, j, h⟩ | h)
    · exact (m.fresh r j x h).imp (fun h' => ⟨r, j, h'⟩) And.left
    · exact Or.inr (Nat.le_trans m.ext.1 h)

theorem run_ext {step : Store α → Store α} (hs : StepOK step) (evs : List (Ev α)) (s : Store α) :
    Ext (fun _ => True) s.heap (evs.foldl (sgdEvG step) s).heap :=
  (run_moves hs evs s).ext.mono fun _ _ => trivial

theorem run_inv_frame {step : Store α → Store α} (hs : StepOK step) (evs : List (Ev α)) (s : Store α) (hI : Inv s) :
    Inv (evs.foldl (sgdEvG step) s) ∧ (∀ j, slot (evs.foldl (sgdEvG step) s) .data j = slot s .data j) ∧
    ∀ x, x < s.heap.length → (∀ r j, slot s r j ≠ some x) →
      rdBuf (evs.foldl (sgdEvG step) s).heap x = rdBuf s.heap x :=
  have m := run_moves hs evs s
  ⟨m.inv hI, m.data, fun _ hx hf => m.ext.rd_eq hx fun w =>
    w.elim (fun ⟨r, j, h⟩ => hf r j h) (Nat.not_le.mpr hx)⟩

end

theorem slot_mk_some {arrs : List (List α)} {rgs : List Bool} {r : Role} {i : Nat} {x : BufId}
    (h : slot (mk arrs rgs) r i = some x) : r = .data ∧ x = i ∧ i < rgs.length := by
  cases r with
  | data =>
    simp only [slot, mk, List.getElem?_map, List.getElem?_zipIdx] at h
    revert h
    cases hr : rgs[i]? <;> intro h <;> cases h
    exact ⟨rfl, Nat.zero_add i, (List.getElem?_eq_some_iff.mp hr).1⟩
  | grad | b1 | b2 =>
    -- `mk` binds no gradient and no optimizer buffer
    simp only [slot, mk, List.getElem?_map, List.getElem?_zipIdx] at h
    revert h
    cases rgs[i]? <;> intro h <;> cases h

theorem inv_mk (arrs : List (List α)) (rgs : List Bool) (h : rgs.length ≤ arrs.length) :
    Inv (mk arrs rgs) := by
  constructor
  · intro r i x hx
    obtain ⟨-, rfl, hl⟩ := slot_mk_some hx
    exact Nat.lt_of_lt_of_le hl h
  · intro r i r' i' x hx hx'
    obtain ⟨rfl, rfl, -⟩ := slot_mk_some hx
    obtain ⟨rfl, rfl, -⟩ := slot_mk_some hx'
    exact ⟨rfl, rfl⟩

end Proofs.OptimStore
