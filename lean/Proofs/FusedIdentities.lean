import Proofs.VJPSoftmaxLemmas
import Proofs.VJPBce
/-!
# Fused kernels against their documented compositions, over ℝ (C14)

* `log_softmax = log ∘ softmax` : exact for the mathematical logarithm, for every array, axis and rank
  (including the rejected calls: both sides reject together).  Composing with the LIBRARY's `log`
  (`log(x + 1e-12)`, DESIGN §12.4 D15) gives a strictly larger value; the excess is `log(1 + ε / softmax)`.
* `BCE-with-logits = BCE ∘ sigmoid` : `bceForward` adds `ε = 1e-12` inside both logarithms and replaces the
  value `−log ε` by `100`; `bceLogitsForward` has no `ε`.  The exact relation, the scalar facts behind its bound for
  targets in `[0,1]` (where the clamp is provably inactive over ℝ; the statement on arrays is
  `Props.C14.bce_logits_vs_bce_sigmoid_unit_targets`), and the falsity of the naive equality are all stated.
-/
namespace Proofs.Fused
open Synap Synap.NDArray Synap.Kernels Proofs.Core Proofs.Calc Proofs.NL

theorem log_one_add_pos_le (t : ℝ) (ht : 0 < t) : 0 < Real.log (1 + t) ∧ Real.log (1 + t) ≤ t :=
  ⟨Real.log_pos (lt_add_of_pos_right 1 ht),
    (Real.log_le_sub_one_of_pos (add_pos one_pos ht)).trans_eq (add_sub_cancel_left 1 t)⟩

theorem log_add_eps (p e : ℝ) (hp : 0 < p) (he : 0 < e) :
    Real.log (p + e) = Real.log p + Real.log (1 + e / p) := by
  rw [← Real.log_mul hp.ne' (by positivity), mul_add, mul_one, mul_div_cancel₀ _ hp.ne']

theorem log_sig_eq_ls (x : Idx → ℝ) (n ax : Nat) (i : Idx) (hn : n ≠ 0) :
    Real.log (sm_sig x n ax i) = sm_ls x n ax i := by
  rw [← sm_exp_ls x n ax i hn, Real.log_exp]

/-- **log_softmax = log ∘ softmax** for the mathematical logarithm, for every real array, axis and rank; the two kernels
    reject exactly the same calls, and on a 0-d operand with `dim` `0` / `−1` the two sides are `0` and `log 1`
    (`Props.C14.log_softmax_is_log_softmax`) -/
theorem log_softmax_is_log_softmax (x : NDArray ℝ) (axis : Int) :
    logSoftmaxForward x axis = (softmaxForward x axis).map (fun s => s.map Real.log) := by
  by_cases h0 : zeroDimAxis x.shape axis
  · rw [sm_logSoftmaxForward_zero x axis h0, sm_softmaxForward_zero x axis h0, Option.map_some, map_ofFn]
    exact congrArg (fun f => some (ofFn [] f)) (funext fun _ => Real.log_one.symm)
  by_cases h : ∃ ax, normAxis x.shape.length axis = some ax ∧ x.shape.getD ax 0 ≠ 0
  · obtain ⟨ax, hax, hn⟩ := h
    rw [sm_logSoftmaxForward_eq x axis ax hax hn, sm_softmaxForward_eq x axis ax hax hn, Option.map_some,
      map_ofFn]
    exact congrArg (fun f => some (ofFn x.shape f)) (funext fun i => (log_sig_eq_ls _ _ _ i hn).symm)
  · rw [Option.eq_none_iff_forall_ne_some.2 fun y hy => h (sm_logSoftmaxForward_some x y axis h0 hy),
      Option.eq_none_iff_forall_ne_some.2 fun y hy => h (sm_softmaxForward_some x y axis h0 hy)]
    rfl

theorem log_softmax_entries (x : NDArray ℝ) (axis : Int) (ax : Nat)
    (hax : normAxis x.shape.length axis = some ax) (hn : x.shape.getD ax 0 ≠ 0) :
    ∃ ls s, logSoftmaxForward x axis = some ls ∧ softmaxForward x axis = some s ∧
      ls.WF ∧ s.WF ∧ ls.shape = x.shape ∧ s.shape = x.shape ∧
      ∀ i, validIdx x.shape i → 0 < s.get i ∧ ls.get i = Real.log (s.get i) := by
  refine ⟨_, _, sm_logSoftmaxForward_eq x axis ax hax hn, sm_softmaxForward_eq x axis ax hax hn,
    ofFn_wf _ _, ofFn_wf _ _, rfl, rfl, fun i hi => ?_⟩
  rw [get_ofFn _ _ _ hi, get_ofFn _ _ _ hi]
  exact ⟨div_pos (Real.exp_pos _) (sm_S_pos _ _ _ i hn), (log_sig_eq_ls _ _ _ i hn).symm⟩

example : ∃ ax, normAxis (⟨[2, 2], [1, 2, 3, 5]⟩ : NDArray ℝ).shape.length (-1) = some ax ∧
    (⟨[2, 2], [1, 2, 3, 5]⟩ : NDArray ℝ).shape.getD ax 0 ≠ 0 := ⟨1, rfl, Nat.succ_ne_zero 1⟩

/-- **the library's `log` of softmax is NOT log_softmax**: `log` computes `log(x + 1e-12)` (by design, D15), so every entry
    is larger by `Real.log (1 + ε / softmax[i])`, which lies in `(0, ε / softmax[i]]` (`Props.C14.library_log_of_softmax`) -/
theorem library_log_of_softmax (x : NDArray ℝ) (axis : Int) (ax : Nat)
    (hax : normAxis x.shape.length axis = some ax) (hn : x.shape.getD ax 0 ≠ 0) :
    ∃ ls s, logSoftmaxForward x axis = some ls ∧ softmaxForward x axis = some s ∧
      (logForward s).shape = ls.shape ∧
      ∀ i, validIdx x.shape i →
        (logForward s).get i = ls.get i + Real.log (1 + (epsilon : ℝ) / s.get i) ∧
        ls.get i < (logForward s).get i ∧
        (logForward s).get i - ls.get i ≤ (epsilon : ℝ) / s.get i := by
  obtain ⟨ls, s, h1, h2, _, hswf, hlss, hss, hget⟩ := log_softmax_entries x axis ax hax hn
  refine ⟨ls, s, h1, h2, by rw [logForward, map_shape, hss, hlss], fun i hi => ?_⟩
  obtain ⟨hpos, hl⟩ := hget i hi
  have hlog : (logForward s).get i = Real.log (s.get i + (epsilon : ℝ)) := by
    rw [logForward, get_map _ _ hswf _ (hss ▸ hi)]; rfl
  have ht : 0 < (epsilon : ℝ) / s.get i := div_pos bce_epsilon_pos hpos
  obtain ⟨hp, hle⟩ := log_one_add_pos_le _ ht
  rw [hlog, log_add_eps _ _ hpos bce_epsilon_pos, hl]
  exact ⟨rfl, lt_add_of_pos_right _ hp, (add_sub_cancel_left _ _).trans_le hle⟩

/-- the logistic function as the kernel writes it -/
noncomputable def sigm (x : ℝ) : ℝ := 1 / (1 + Real.exp (-x))

theorem sigm_eq (x : ℝ) : sigm x = Real.sigmoid x := one_div_one_add_exp_neg x
theorem sigm_pos (x : ℝ) : 0 < sigm x := sigm_eq x ▸ Real.sigmoid_pos x
theorem sigm_lt_one (x : ℝ) : sigm x < 1 := sigm_eq x ▸ Real.sigmoid_lt_one x
theorem one_sub_sigm_pos (x : ℝ) : 0 < 1 - sigm x := sub_pos.2 (sigm_lt_one x)
theorem one_sub_sigm (x : ℝ) : 1 - sigm x = Real.exp (-x) / (1 + Real.exp (-x)) := by
  rw [sigm_eq, ← Real.sigmoid_neg, ← Real.sigmoid_mul_rexp_neg, Real.sigmoid_def, mul_comm, div_eq_mul_inv]
theorem div_sigm (c x : ℝ) : c / sigm x = c * (1 + Real.exp (-x)) := by
  rw [sigm, div_div_eq_mul_div, div_one]
theorem div_one_sub_sigm (c x : ℝ) : c / (1 - sigm x) = c * (1 + Real.exp x) := by
  rw [sigm_eq, ← Real.sigmoid_neg, Real.sigmoid_def, div_inv_eq_mul, neg_neg]

/-- the value `bceForward` computes BEFORE its clamp, at prediction `p` and target `t` -/
noncomputable def bceRaw (p t : ℝ) : ℝ :=
  -(t * Real.log (p + (epsilon : ℝ)) + (1 - t) * Real.log (1 - p + (epsilon : ℝ)))

/-- what the `ε` inside the two logarithms of `bceForward` takes away at prediction `sigmoid x`, target `t` -/
noncomputable def bceGap (x t : ℝ) : ℝ :=
  t * Real.log (1 + (epsilon : ℝ) / sigm x) + (1 - t) * Real.log (1 + (epsilon : ℝ) / (1 - sigm x))

theorem bceScalar_eq (p t : ℝ) : bceScalar p t = if bceRaw p t = -(Real.log (epsilon : ℝ)) then 100 else bceRaw p t := rfl

/-- without any `ε` the identity is exact -/
theorem bce_sigmoid_no_eps (x t : ℝ) :
    -(t * Real.log (sigm x) + (1 - t) * Real.log (1 - sigm x)) = (1 - t) * x + Real.log (1 + Real.exp (-x)) := by
  have h1 : Real.log (sigm x) = -Real.log (1 + Real.exp (-x)) := by
    unfold sigm; rw [one_div, Real.log_inv]
  have h2 : Real.log (1 - sigm x) = -x - Real.log (1 + Real.exp (-x)) := by
    rw [one_sub_sigm, Real.log_div (Real.exp_ne_zero _) (by positivity), Real.log_exp]
  rw [h1, h2]; ring

theorem bceRaw_sigm (x t : ℝ) : bceRaw (sigm x) t = bceLogitsScalar x t - bceGap x t := by
  have hl : bceLogitsScalar x t = (1 - t) * x + Real.log (1 + Real.exp (-x)) := bce_logits_scalar_eq _ x t
  rw [hl, ← bce_sigmoid_no_eps]
  unfold bceRaw bceGap
  rw [log_add_eps _ _ (sigm_pos x) bce_epsilon_pos, log_add_eps _ _ (one_sub_sigm_pos x) bce_epsilon_pos]
  ring

theorem convex_lt (t a b c : ℝ) (h0 : 0 ≤ t) (h1 : t ≤ 1) (ha : c < a) (hb : c < b) : c < t * a + (1 - t) * b :=
  convex_Ioi c ha hb h0 (sub_nonneg.2 h1) (add_sub_cancel _ _)

/-- `log(1+u) ≤ u` with `u = ε/σ(x) = ε(1+e^{−x})` and `u = ε/(1−σ(x)) = ε(1+e^{x})` -/
theorem bceGap_bounds (x t : ℝ) (h0 : 0 ≤ t) (h1 : t ≤ 1) :
    0 < bceGap x t ∧ bceGap x t ≤ (epsilon : ℝ) * (t * (1 + Real.exp (-x)) + (1 - t) * (1 + Real.exp x)) := by
  have ha := log_one_add_pos_le _ (div_pos bce_epsilon_pos (sigm_pos x))
  have hb := log_one_add_pos_le _ (div_pos bce_epsilon_pos (one_sub_sigm_pos x))
  refine ⟨convex_lt t _ _ 0 h0 h1 ha.1 hb.1, ?_⟩
  rw [mul_add, mul_left_comm, mul_left_comm _ (1 - t)]
  exact add_le_add (mul_le_mul_of_nonneg_left (ha.2.trans_eq (div_sigm _ x)) h0)
    (mul_le_mul_of_nonneg_left (hb.2.trans_eq (div_one_sub_sigm _ x)) (sub_nonneg.2 h1))

/-- for a target in `[0,1]` and a prediction strictly inside `(0,1)` the clamp of `bceForward` is inactive -/
theorem bceRaw_lt_clamp (p t : ℝ) (hp0 : 0 < p) (hp1 : p < 1) (h0 : 0 ≤ t) (h1 : t ≤ 1) :
    bceRaw p t < -(Real.log (epsilon : ℝ)) :=
  neg_lt_neg (convex_lt t _ _ _ h0 h1 (Real.log_lt_log bce_epsilon_pos (lt_add_of_pos_left _ hp0))
    (Real.log_lt_log bce_epsilon_pos (lt_add_of_pos_left _ (sub_pos.2 hp1))))

theorem bce_logits_sub_scalar_unit (x t : ℝ) (h0 : 0 ≤ t) (h1 : t ≤ 1) :
    bceLogitsScalar x t - bceScalar (sigm x) t = bceGap x t := by
  rw [bceScalar_eq, if_neg (bceRaw_lt_clamp _ t (sigm_pos x) (sigm_lt_one x) h0 h1).ne, bceRaw_sigm, sub_sub_cancel]

theorem bce_both_entries (x y : NDArray ℝ) (hx : x.WF) (s : Shape) (hs : broadcastShapes x.shape y.shape = some s) :
    ∃ l r, bceLogitsForward x y = some l ∧ bceForward (sigmoidForward x) y = some r ∧ l.shape = s ∧ r.shape = s ∧
      ∀ i, validIdx s i →
        l.get i = bceLogitsScalar (x.get (bcastIdx x.shape i)) (y.get (bcastIdx y.shape i)) ∧
        r.get i = bceScalar (sigm (x.get (bcastIdx x.shape i))) (y.get (bcastIdx y.shape i)) := by
  refine ⟨_, _, Proofs.Adjoint.bcast2_some _ x y s hs, bceForward_eq (sigmoidForward x) y s hs, rfl, rfl, fun i hi => ⟨get_ofFn _ _ _ hi, ?_⟩⟩
  rw [get_ofFn _ _ _ hi, sigmoidForward, map_shape, get_map _ _ hx _ (bcastIdx_valid x.shape y.shape s hs i hi).1]
  rfl

/-- **BCE-with-logits against BCE ∘ sigmoid, exact relation for arbitrary targets**: entry `i` of `BCE(sigmoid x, t)` is
    `BCEL(x, t)[i] − bceGap`, unless that number equals `−log ε`, in which case `bceForward`'s clamp turns it into `100`
    (`Props.C14.bce_logits_vs_bce_sigmoid`) -/
theorem bce_logits_vs_bce_sigmoid (x y : NDArray ℝ) (hx : x.WF) (s : Shape)
    (hs : broadcastShapes x.shape y.shape = some s) :
    ∃ l r, bceLogitsForward x y = some l ∧ bceForward (sigmoidForward x) y = some r ∧ l.shape = s ∧ r.shape = s ∧
      ∀ i, validIdx s i →
        r.get i = (let gap := bceGap (x.get (bcastIdx x.shape i)) (y.get (bcastIdx y.shape i))
          if l.get i - gap = -(Real.log (epsilon : ℝ)) then 100 else l.get i - gap) := by
  obtain ⟨l, r, h1, h2, h3, h4, h⟩ := bce_both_entries x y hx s hs
  refine ⟨l, r, h1, h2, h3, h4, fun i hi => ?_⟩
  rw [(h i hi).1, (h i hi).2, bceScalar_eq, bceRaw_sigm]

/-- concrete witness against the naive equality: logits `[0]`, targets `[1]` -/
theorem bce_logits_ne_bce_sigmoid_counterexample :
    ∃ (x y l r : NDArray ℝ), x.WF ∧ y.WF ∧ bceLogitsForward x y = some l ∧ bceForward (sigmoidForward x) y = some r ∧
      l ≠ r := by
  obtain ⟨l, r, h1, h2, _, _, h⟩ := bce_both_entries (⟨[1], [0]⟩ : NDArray ℝ) ⟨[1], [1]⟩ rfl [1] rfl
  obtain ⟨hl, hr⟩ := h [0] ⟨Nat.zero_lt_one, trivial⟩
  -- the two entries differ by `bceGap 0 1 > 0`
  refine ⟨⟨[1], [0]⟩, ⟨[1], [1]⟩, l, r, rfl, rfl, h1, h2, fun he => (bceGap_bounds 0 1 zero_le_one le_rfl).1.ne' ?_⟩
  rw [← bce_logits_sub_scalar_unit 0 1 zero_le_one le_rfl, sub_eq_zero]
  exact hl.symm.trans ((congrArg (·.get [0]) he).trans hr)

end Proofs.Fused
