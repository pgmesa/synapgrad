import Proofs.SpecLemmas
import Proofs.AdjointExpand
import Proofs.AdjointConcat
import Proofs.AdjointPerm
import Proofs.AdjointIndex
/-!
# Specification theorems for the data-movement and indexing kernels

"The executable definition equals its mathematical reading": for every operation below we state
(1) the exact acceptance condition, (2) the output shape as an explicit formula, and (3) for every
valid output index the output entry as an explicit formula in the operands' entries.

The closed forms of the argument normalisers, and the conventions `pyAxis` / `InRange`, are in
`Proofs/NpForms.lean`; arithmetic and reductions are in `Proofs/SpecReduce.lean`.
-/
namespace Proofs.SpecOps
open Synap Synap.NDArray Synap.Np Synap.Kernels Proofs.Core Proofs.Adjoint Proofs.Spec

section Movement

variable {R : Type} [CommRing R]

theorem transposeP_spec {n : Nat} {p q : List Nat} (hp : PermPair n p q) (x : NDArray R) :
    (transposeP x p).shape = permute x.shape p ∧
    ∀ j, validIdx (transposeP x p).shape j → (transposeP x p).get j = x.get (permute j q) := by
  refine ⟨rfl, fun j hj => ?_⟩
  change validIdx (permute x.shape p) j at hj
  show (gather _ (fun j => permute j (invPerm p)) x).get j = _
  rw [get_gather _ _ _ _ hj, hp.invPerm_eq]

/-- **transpose(dim0, dim1)** (`np.swapaxes`): accepted exactly when both dims lie in
    `[-ndim, ndim)`; the result shape is the operand shape with the two sizes exchanged and
    `out[…, i_a, …, i_b, …] = x[…, i_b, …, i_a, …]`, i.e. the entry at `j` is the operand's entry at
    `j` with positions `a`, `b` exchanged (`a`, `b` the normalised dims).  Any rank, negative dims. -/
theorem transpose_spec (x : NDArray R) (d0 d1 : Int) :
    let n := x.shape.length
    let a := pyAxis n d0
    let b := pyAxis n d1
    ((transposeForward x d0 d1).isSome ↔ InRange n d0 ∧ InRange n d1) ∧
    ∀ y, transposeForward x d0 d1 = some y →
      y.shape = swapAt x.shape a b ∧
      ∀ j, validIdx y.shape j → y.get j = x.get (swapAt j a b) := by
  intro n a b
  refine spec_of_eq (swapaxes_eq x d0 d1) fun ⟨h0, h1⟩ => ?_
  have ha : a < n := pyAxis_lt n d0 h0
  have hb : b < n := pyAxis_lt n d1 h1
  obtain ⟨hs, hg⟩ := transposeP_spec (swapPerm_pair n a b ha hb) x
  refine ⟨hs.trans (permute_swapPerm x.shape a b), fun j hj => ?_⟩
  have hjl : j.length = n := by rw [validIdx_length _ _ hj, hs, length_permute, length_swapPerm]
  rw [hg j hj, ← permute_swapPerm j a b, hjl]

example : ∃ y, transposeForward (⟨[2, 3], [1, 2, 3, 4, 5, 6]⟩ : NDArray Int) (-1) 0 = some y ∧
    y.shape = [3, 2] ∧ y.get [2, 1] = 6 := by decide +kernel

/-- **transpose(d, d) is the identity** (also through a negative spelling of the same dim) -/
theorem transpose_same (x : NDArray R) (hx : x.WF) (d0 d1 : Int) (h0 : InRange x.shape.length d0)
    (h1 : InRange x.shape.length d1) (he : pyAxis x.shape.length d0 = pyAxis x.shape.length d1) :
    transposeForward x d0 d1 = some x := by
  have hy : transposeForward x d0 d1 = _ := (swapaxes_eq x d0 d1).trans (if_pos ⟨h0, h1⟩)
  obtain ⟨hs, hg⟩ := (transpose_spec x d0 d1).2 _ hy
  rw [hy]
  congr 1
  apply ext_get _ _ (gather_wf _ _ _) hx (hs.trans (by rw [he, swapAt_self]))
  intro j hj
  exact (hg j hj).trans (by rw [he, swapAt_self])

example : transposeForward (⟨[2, 3], [1, 2, 3, 4, 5, 6]⟩ : NDArray Int) (-1) 1
    = some ⟨[2, 3], [1, 2, 3, 4, 5, 6]⟩ :=
  transpose_same _ (by unfold WF; rfl) _ _ (by decide) (by decide) (by decide)



/-- **movedim(source, destination)** (`np.moveaxis` with one pair): accepted exactly when both dims
    lie in `[-ndim, ndim)`; the result shape is the operand shape with the source size removed and
    re-inserted at the destination; `out[j] = x[i]` where `i` is `j` with its entry at the
    destination removed and re-inserted at the source — i.e.
    `out[…(axes other than src in order, with i_src at position dst)…] = x[…i…]`. -/
theorem movedim_spec (x : NDArray R) (src dst : Int) :
    let n := x.shape.length
    let s := pyAxis n src
    let d := pyAxis n dst
    ((movedimForward x src dst).isSome ↔ InRange n src ∧ InRange n dst) ∧
    ∀ y, movedimForward x src dst = some y →
      y.shape = insertAt (x.shape.eraseIdx s) d (x.shape.getD s 0) ∧
      ∀ j, validIdx y.shape j → y.get j = x.get (insertAt (j.eraseIdx d) s (j.getD d 0)) := by
  intro n s d
  refine spec_of_eq (moveaxis_eq x src dst) fun ⟨h0, h1⟩ => ?_
  have hs : s < n := pyAxis_lt n src h0
  have hd : d < n := pyAxis_lt n dst h1
  obtain ⟨hsh, hg⟩ := transposeP_spec (moveaxisPerm_pair n s d hs hd) x
  refine ⟨hsh.trans (permute_moveaxisPerm x.shape s d hs), fun j hj => ?_⟩
  have hjl : j.length = n := by
    rw [validIdx_length _ _ hj, hsh, length_permute, moveaxisPerm_length n s d hs hd]
  rw [hg j hj, ← permute_moveaxisPerm j d s (hjl.symm ▸ hd), hjl]

example : ∃ y, movedimForward (NDArray.ofFn [2, 3, 4] (fun i => (ravel [2, 3, 4] i : Int))) 0 (-1) = some y ∧
    y.shape = [3, 4, 2] ∧ y.get [2, 3, 1] = 23 := by decide +kernel

/-- the same statement in "destination form": the entry of the result at an index whose
    destination position holds `t` is the operand's entry with `t` at the source position -/
theorem movedim_entry (x y : NDArray R) (src dst : Int) (h : movedimForward x src dst = some y)
    (q : Idx) (t : Nat) (hq : validIdx (x.shape.eraseIdx (pyAxis x.shape.length src)) q)
    (ht : t < x.shape.getD (pyAxis x.shape.length src) 0) :
    y.get (insertAt q (pyAxis x.shape.length dst) t) = x.get (insertAt q (pyAxis x.shape.length src) t) := by
  obtain ⟨hacc, hval⟩ := movedim_spec x src dst
  obtain ⟨hs, hg⟩ := hval y h
  have hr := hacc.1 (by rw [h]; rfl)
  have hd := pyAxis_lt _ _ hr.2
  have hsl := pyAxis_lt _ _ hr.1
  have hql : q.length = x.shape.length - 1 := by
    rw [validIdx_length _ _ hq, List.length_eraseIdx_of_lt hsl]
  have hdq : pyAxis x.shape.length dst ≤ q.length := hql ▸ Nat.le_sub_one_of_lt hd
  rw [hg _ (by
    rw [hs]
    exact validIdx_insertAt _ q _ _ t hq ht),
    eraseIdx_insertAt q _ t hdq, getD_insertAt q _ t 0 hdq]



/-- **reshape(shape)** with at most one `-1`: accepted exactly when every entry is `≥ -1` and either
    there is no `-1` and the product of the entries equals the number of elements, or there is exactly
    one `-1` and the product `p` of the other entries is non-zero and divides the number of elements
    (the hole then resolves to `size / p`).  The result has the requested shape and *the same
    row-major data*: `y.data = x.data`; equivalently the entry at `j` is the operand's entry at the
    index with the same flat offset, and the `k`-th elements in row-major order agree. -/
theorem reshape_spec (x : NDArray R) (hx : x.WF) (target : List Int) :
    let sz := Shape.size x.shape
    let p := Shape.size ((target.filter (fun t => decide (t ≥ 0))).map Int.toNat)
    let holes := (target.filter (fun t => decide (t < 0))).length
    ((reshapeForward x target).isSome ↔
      (∀ t ∈ target, -1 ≤ t) ∧ ((holes = 0 ∧ p = sz) ∨ (holes = 1 ∧ p ≠ 0 ∧ p ∣ sz))) ∧
    ∀ y, reshapeForward x target = some y →
      y.shape = target.map (fun t => if t < 0 then sz / p else t.toNat) ∧
      Shape.size y.shape = sz ∧ y.data = x.data ∧
      (∀ j, validIdx y.shape j → y.get j = x.get (unravel x.shape (ravel y.shape j))) ∧
      (∀ k, k < sz → y.get (unravel y.shape k) = x.get (unravel x.shape k)) := by
  intro sz p holes
  have h0 := resolveShape_eq sz target
  refine spec_of_eq ((congrArg (Option.map (reshapeTo x)) h0).trans Option.map_if) fun hc => ?_
  have hsz := resolveShape_size _ _ _ (h0.trans (if_pos hc))
  refine ⟨rfl, hsz, reshapeTo_data x hx _ hsz, fun j hj => get_gather _ _ _ _ hj, fun k hk => ?_⟩
  obtain ⟨hv, hr⟩ := ravel_unravel (target.map (fun t => if t < 0 then sz / p else t.toNat)) k
    (by rw [hsz]; exact hk)
  exact (get_gather _ _ _ _ hv).trans (congrArg (fun t => x.get (unravel x.shape t)) hr)

example : ∃ y, reshapeForward (⟨[2, 3], [1, 2, 3, 4, 5, 6]⟩ : NDArray Int) [3, -1] = some y ∧
    y.shape = [3, 2] ∧ y.data = [1, 2, 3, 4, 5, 6] ∧ y.get [1, 0] = 3 := by decide +kernel

example : reshapeForward (⟨[2, 3], [1, 2, 3, 4, 5, 6]⟩ : NDArray Int) [4, -1] = none := by decide +kernel



/-- **squeeze()** (`dim=None`): always accepted; every axis of size 1 disappears, the others stay in
    order, the row-major data is unchanged.  (A 0-d operand is returned as is — the same formula.) -/
theorem squeeze_all_spec (x : NDArray R) (hx : x.WF) :
    ∃ y, squeezeForward x .all = some y ∧ y.shape = x.shape.filter (fun n => decide (n ≠ 1)) ∧
      y.data = x.data := by
  unfold squeezeForward
  by_cases hl : x.shape.length > 0
  · refine ⟨_, by rw [if_pos hl], rfl, ?_⟩
    exact reshapeTo_data x hx _ (size_filter_ne_one _)
  · refine ⟨x, by rw [if_neg hl], ?_, rfl⟩
    rw [List.eq_nil_of_length_eq_zero (Nat.eq_zero_of_not_pos hl)]
    rfl

example : ∃ y, squeezeForward (⟨[1, 2, 1, 3], [1, 2, 3, 4, 5, 6]⟩ : NDArray Int) .all = some y ∧
    y.shape = [2, 3] ∧ y.data = [1, 2, 3, 4, 5, 6] := by decide +kernel

/-- **squeeze(dim)** with an int: on a 0-d operand anything is accepted and nothing changes;
    otherwise `dim` must lie in `[-ndim, ndim)`, and that axis is removed *iff* it has size 1
    (no error when it has another size — PyTorch's rule, not NumPy's).  Data unchanged. -/
theorem squeeze_one_spec (x : NDArray R) (hx : x.WF) (k : Int) :
    let n := x.shape.length
    let a := pyAxis n k
    ((squeezeForward x (.one k)).isSome ↔ n = 0 ∨ InRange n k) ∧
    ∀ y, squeezeForward x (.one k) = some y →
      y.shape = (if x.shape.getD a 0 = 1 then x.shape.eraseIdx a else x.shape) ∧ y.data = x.data := by
  intro n a
  refine spec_of_eq (squeezeForward_one_eq x k) fun _ => ?_
  by_cases h1 : x.shape.getD a 0 = 1
  · rw [if_pos h1, if_pos h1]
    exact ⟨dropAxes_single _ _, reshapeTo_data x hx _ (size_dropAxes _ _ (List.forall_mem_singleton.2 h1))⟩
  · rw [if_neg h1, if_neg h1]; exact ⟨rfl, rfl⟩

example : ∃ y, squeezeForward (⟨[2, 1, 3], [1, 2, 3, 4, 5, 6]⟩ : NDArray Int) (.one (-2)) = some y ∧
    y.shape = [2, 3] := by decide +kernel
example : ∃ y, squeezeForward (⟨[2, 1, 3], [1, 2, 3, 4, 5, 6]⟩ : NDArray Int) (.one 0) = some y ∧
    y.shape = [2, 1, 3] := by decide +kernel
example : squeezeForward (⟨[2, 1, 3], [1, 2, 3, 4, 5, 6]⟩ : NDArray Int) (.one 3) = none := by decide +kernel

/-- **squeeze(dims)** with a tuple: on a 0-d operand anything is accepted and nothing changes;
    otherwise every named dim must lie in `[-ndim, ndim)` and *the named dims that have size 1*
    must be pairwise distinct after normalisation (a repeated dim of another size is tolerated:
    the kernel filters before it calls `np.squeeze`); exactly those axes are removed.
    Data unchanged. -/
theorem squeeze_many_spec (x : NDArray R) (hx : x.WF) (ks : List Int) (hl : x.shape.length ≠ 0) :
    let n := x.shape.length
    let sel := (ks.map (pyAxis n)).filter (fun a => x.shape.getD a 0 == 1)
    ((squeezeForward x (.many ks)).isSome ↔ (∀ d ∈ ks, InRange n d) ∧ sel.Nodup) ∧
    ∀ y, squeezeForward x (.many ks) = some y →
      y.shape = dropAxes x.shape sel ∧ y.data = x.data := by
  intro n sel
  have hone : ∀ k ∈ sel, x.shape.getD k 0 = 1 := fun k hk => beq_iff_eq.1 (List.mem_filter.1 hk).2
  refine spec_of_eq (squeezeForward_many_eq x ks hl) fun _ => ?_
  by_cases hsel : sel = []
  · rw [if_neg (not_not.2 hsel), hsel, dropAxes_eq_maskFrom _ _ 1, maskFrom_of_lt 1 false _ (axes := []) nofun]
    exact ⟨rfl, rfl⟩
  · rw [if_pos hsel]; exact ⟨rfl, reshapeTo_data x hx _ (size_dropAxes _ _ hone)⟩

/-- on a 0-d operand `squeeze(tuple)` returns the operand, whatever the tuple -/
theorem squeeze_many_zero_d (x : NDArray R) (ks : List Int) (hl : x.shape.length = 0) :
    squeezeForward x (.many ks) = some x :=
  if_pos hl

example : ∃ y, squeezeForward (⟨[1, 2, 1, 3], [1, 2, 3, 4, 5, 6]⟩ : NDArray Int) (.many [0, -2, 1, 1]) = some y ∧
    y.shape = [2, 3] ∧ y.data = [1, 2, 3, 4, 5, 6] := by decide +kernel
example : squeezeForward (⟨[1, 2, 1, 3], [1, 2, 3, 4, 5, 6]⟩ : NDArray Int) (.many [0, -4]) = none := by decide +kernel



/-- **unsqueeze(dims)** (`np.expand_dims`): with `m = ndim + len(dims)` the *result* rank, accepted
    exactly when every dim lies in `[-m, m)` and the normalised dims are pairwise distinct.  The
    result has rank `m`; its size at position `i` is 1 when `i` is a named position, and otherwise
    the operand's size number "count of un-named positions before `i`" (so removing the named
    positions gives back the operand's shape).  Data unchanged in row-major order. -/
theorem unsqueeze_spec (x : NDArray R) (hx : x.WF) (axes : List Int) :
    let m := x.shape.length + axes.length
    let ax := axes.map (pyAxis m)
    ((unsqueezeForward x axes).isSome ↔ (∀ d ∈ axes, InRange m d) ∧ ax.Nodup) ∧
    ∀ y, unsqueezeForward x axes = some y →
      y.shape.length = m ∧
      (∀ i, i < m → y.shape.getD i 0 =
        if i ∈ ax then 1 else x.shape.getD (((List.range i).filter (fun k => !ax.contains k)).length) 1) ∧
      dropAxes y.shape ax = x.shape ∧
      y.data = x.data := by
  intro m ax
  refine spec_of_eq ((expandDims_eq x axes).trans
    ((congrArg (Option.map _) (normAxes_eq m axes)).trans Option.map_if)) fun hok => ?_
  obtain ⟨hnd, hlt, hlen⟩ := normAxes_inv ((normAxes_iff m axes ax).2 ⟨hok.1, hok.2, rfl⟩)
  have hdrop : dropAxes (expandShape ax 0 m x.shape) ax = x.shape :=
    dropAxes_expandShape hnd hlt (congrArg (x.shape.length + ·) hlen)
  have hone : ∀ k ∈ ax, (expandShape ax 0 m x.shape).getD k 0 = 1 := fun k hk =>
    expandShape_one ax _ 0 _ k (hlt k hk) ((Nat.zero_add k).symm ▸ hk)
  refine ⟨expandShape_length ax m 0 x.shape, ?_, hdrop, ?_⟩
  · intro i hi
    show (expandShape ax 0 m x.shape).getD i 0 = _
    rw [expandShape_getD ax m 0 x.shape i hi, Nat.zero_add, List.range_eq_range']
  · apply reshapeTo_data x hx
    rw [← size_dropAxes _ ax hone, hdrop]

/-- **unsqueeze(dim)** with one int: a size-1 axis is inserted at position `dim`
    (normalised against `ndim + 1`) -/
theorem unsqueeze_one_spec (x : NDArray R) (hx : x.WF) (d : Int) (hd : InRange (x.shape.length + 1) d) :
    ∃ y, unsqueezeForward x [d] = some y ∧
      y.shape = insertAt x.shape (pyAxis (x.shape.length + 1) d) 1 ∧ y.data = x.data := by
  have hn := (normAxis_eq _ d).trans (if_pos hd)
  refine ⟨_, expandDims_single x d _ hn, rfl, ?_⟩
  apply reshapeTo_data x hx
  exact size_insertAt_one _ _

example : ∃ y, unsqueezeForward (⟨[2, 3], [1, 2, 3, 4, 5, 6]⟩ : NDArray Int) [0, -1] = some y ∧
    y.shape = [1, 2, 3, 1] ∧ y.data = [1, 2, 3, 4, 5, 6] := by decide +kernel
example : unsqueezeForward (⟨[2, 3], [1, 2, 3, 4, 5, 6]⟩ : NDArray Int) [0, -4] = none := by decide +kernel
example : unsqueezeForward (⟨[2, 3], [1, 2, 3, 4, 5, 6]⟩ : NDArray Int) [4] = none := by decide +kernel

end Movement

section Concat

theorem exists_block {β : Type} (f : β → Nat) (l : List β) (t : Nat) (h : t < (l.map f).sum) :
    ∃ k, ∃ hk : k < l.length, ((l.take k).map f).sum ≤ t ∧ t < ((l.take k).map f).sum + f l[k] := by
  induction l generalizing t with
  | nil => exact absurd h (Nat.not_lt_zero t)
  | cons x l ih =>
    rw [List.map_cons, List.sum_cons] at h
    by_cases ht : t < f x
    · exact ⟨0, Nat.succ_pos _, Nat.zero_le t, (Nat.zero_add _).symm ▸ ht⟩
    · obtain ⟨k, hk, h1, h2⟩ := ih (t - f x) (Nat.sub_lt_left_of_lt_add (Nat.not_lt.1 ht) h)
      refine ⟨k + 1, Nat.succ_lt_succ hk, ?_⟩
      rw [List.take_succ_cons, List.map_cons, List.sum_cons, Nat.add_assoc]
      exact ⟨Nat.add_le_of_le_sub' (Nat.not_lt.1 ht) h1, (Nat.sub_lt_iff_lt_add' (Nat.not_lt.1 ht)).1 h2⟩

theorem concatenate_find_spec {α : Type} [Zero α] (a : Nat) (j : Idx) (t : Nat) (xs : List (NDArray α)) (off k : Nat)
    (hk : k < xs.length)
    (h1 : off + ((xs.take k).map (fun x => x.shape.getD a 0)).sum ≤ t)
    (h2 : t < off + ((xs.take k).map (fun x => x.shape.getD a 0)).sum + xs[k].shape.getD a 0) :
    concatenate.find a j t xs off =
      xs[k].get (j.set a (t - (off + ((xs.take k).map (fun x => x.shape.getD a 0)).sum))) := by
  induction xs generalizing off k with
  | nil => exact absurd hk (Nat.not_lt_zero _)
  | cons x r ih =>
    rw [concatenate.find]
    cases k with
    | zero =>
      rw [if_pos (show t < off + x.shape.getD a 0 from h2)]
      exact congrArg x.get (zipIdx_map_ite_eq_set j a (fun _ => t - off))
    | succ k =>
      rw [List.take_succ_cons, List.map_cons, List.sum_cons, ← Nat.add_assoc] at h1 h2 ⊢
      rw [if_neg (Nat.not_lt.2 (Nat.le_trans (Nat.le_add_right _ _) h1))]
      exact ih (off + x.shape.getD a 0) k (Nat.lt_of_succ_lt_succ hk) h1 h2

variable {R : Type} [CommRing R]

/-- **concat(tensors, dim)** (`np.concatenate`): accepted exactly when the list is non-empty, `dim`
    lies in `[-ndim, ndim)` of the first operand, and all operands have the first operand's rank
    and its shape off the axis.  The result has the first operand's shape with the size along the
    axis replaced by the sum of the operands' sizes along it; the entry at `j`, whose coordinate
    along the axis is `t`, comes from the operand `k` whose block `[off_k, off_k + n_k)` of running
    offsets contains `t` (there is one), read at `j` with `t` replaced by `t - off_k`. -/
theorem concat_spec (x0 : NDArray R) (r : List (NDArray R)) (axis : Int) :
    let xs := x0 :: r
    let a := pyAxis x0.shape.length axis
    let off := fun k => ((xs.take k).map (fun x => x.shape.getD a 0)).sum
    ((concatForward xs axis).isSome ↔ InRange x0.shape.length axis ∧
      ∀ x ∈ xs, x.shape.length = x0.shape.length ∧ x.shape.eraseIdx a = x0.shape.eraseIdx a) ∧
    ∀ y, concatForward xs axis = some y →
      y.shape = x0.shape.set a ((xs.map (fun x => x.shape.getD a 0)).sum) ∧
      ∀ j, validIdx y.shape j →
        (∃ k, ∃ hk : k < xs.length, off k ≤ j.getD a 0 ∧ j.getD a 0 < off k + xs[k].shape.getD a 0) ∧
        ∀ k (hk : k < xs.length), off k ≤ j.getD a 0 → j.getD a 0 < off k + xs[k].shape.getD a 0 →
          y.get j = xs[k].get (j.set a (j.getD a 0 - off k)) := by
  intro xs a off
  have e : concatForward xs axis = if InRange x0.shape.length axis ∧
      ∀ x ∈ xs, x.shape.length = x0.shape.length ∧ x.shape.eraseIdx a = x0.shape.eraseIdx a then
      some (ofFn (x0.shape.set a ((xs.map (fun x => x.shape.getD a 0)).sum))
        (fun j => concatenate.find a j (getI j a) xs 0)) else none := by
    show concatenate (x0 :: r) axis = _
    rw [concat_cons, normAxis_eq, bind_guard_eq, ← List.set_eq_modify]
    refine if_congr (and_congr_right' (List.all_eq_true.trans (forall₂_congr fun x _ => ?_))) rfl rfl
    rw [Bool.and_eq_true, beq_iff_eq, beq_iff_eq, dropAxes_single, dropAxes_single]
  refine spec_of_eq e fun ⟨hr, _⟩ => ⟨rfl, fun j hj => ?_⟩
  have ha : a < x0.shape.length := pyAxis_lt _ _ hr
  change validIdx (x0.shape.set a _) j at hj
  have hjt : j.getD a 0 < (xs.map (fun x => x.shape.getD a 0)).sum := by
    have := validIdx_getD _ j a hj (by rwa [List.length_set])
    rwa [getD_set_self _ a _ ha] at this
  refine ⟨exists_block _ xs _ hjt, fun k hk h1 h2 => ?_⟩
  rw [get_ofFn _ _ j hj]
  have := concatenate_find_spec (α := R) a j (j.getD a 0) xs 0 k hk (by rwa [Nat.zero_add]) (by rwa [Nat.zero_add])
  rwa [Nat.zero_add] at this

/-- an empty list of operands is rejected -/
theorem concat_nil (axis : Int) : concatForward ([] : List (NDArray R)) axis = none := rfl

example : ∃ y, concatForward [(⟨[2, 1], [1, 2]⟩ : NDArray Int), ⟨[2, 2], [3, 4, 5, 6]⟩] (-1) = some y ∧
    y.shape = [2, 3] ∧ y.data = [1, 3, 4, 2, 5, 6] ∧ y.get [1, 2] = 6 := by decide +kernel
example : concatForward [(⟨[2, 1], [1, 2]⟩ : NDArray Int), ⟨[3, 2], [3, 4, 5, 6, 7, 8]⟩] 1 = none := by
  decide +kernel

/-- **stack(tensors, dim)** (`np.stack`): accepted exactly when the list is non-empty, `dim` lies in
    `[-(ndim+1), ndim+1)` and all operands have the same shape.  The result has a new axis of size
    `len(tensors)` inserted at `dim`, and `out[…, k at dim, …] = tensors[k][…]`. -/
theorem stack_spec (x0 : NDArray R) (r : List (NDArray R)) (axis : Int) :
    let xs := x0 :: r
    let a := pyAxis (x0.shape.length + 1) axis
    ((stackForward xs axis).isSome ↔ InRange (x0.shape.length + 1) axis ∧ ∀ x ∈ xs, x.shape = x0.shape) ∧
    ∀ y, stackForward xs axis = some y →
      y.shape = insertAt x0.shape a xs.length ∧
      (∀ j, validIdx y.shape j → ∃ hk : j.getD a 0 < xs.length,
        y.get j = xs[j.getD a 0].get (j.eraseIdx a)) ∧
      (∀ k (hk : k < xs.length) (q : Idx), validIdx x0.shape q →
        y.get (insertAt q a k) = xs[k].get q) := by
  intro xs a
  -- the entry function is read off `stack_cons`; all that is used of it is `hF`
  have hcl : ∃ F : Idx → R,
      (stackForward xs axis = if InRange (x0.shape.length + 1) axis ∧ ∀ x ∈ xs, x.shape = x0.shape then
        some (ofFn (insertAt x0.shape a xs.length) F) else none) ∧
      ∀ j (hk : j.getD a 0 < xs.length), F j = xs[j.getD a 0].get (j.eraseIdx a) :=
    ⟨_, by
      refine (stack_cons x0 r axis).trans ?_
      rw [normAxis_eq, bind_guard_eq]
      exact if_congr (and_congr_right' (List.all_eq_true.trans (forall₂_congr fun x _ => beq_iff_eq))) rfl rfl,
    fun j hk => by rw [getI, List.getElem?_eq_getElem hk, dropAxes_single]⟩
  obtain ⟨F, e, hF⟩ := hcl
  refine spec_of_eq e fun ⟨hr, _⟩ => ?_
  have ha : a ≤ x0.shape.length := Nat.le_of_lt_succ (pyAxis_lt _ _ hr)
  have hget : ∀ j, validIdx (insertAt x0.shape a xs.length) j → ∃ hk : j.getD a 0 < xs.length,
      (ofFn (insertAt x0.shape a xs.length) F).get j = xs[j.getD a 0].get (j.eraseIdx a) := by
    intro j hj
    have hk : j.getD a 0 < xs.length := by
      have := validIdx_getD _ _ a hj ((length_insertAt _ _ _).symm ▸ Nat.lt_succ_of_le ha)
      rwa [getD_insertAt _ _ _ _ ha] at this
    exact ⟨hk, (get_ofFn _ _ _ hj).trans (hF j hk)⟩
  refine ⟨rfl, hget, fun k hk q hq => ?_⟩
  -- the second form is the first at the index `insertAt q a k`, whose `a`-th coordinate is `k`
  have hql : a ≤ q.length := by rw [validIdx_length _ _ hq]; exact ha
  obtain ⟨_, e1⟩ := hget _ (validIdx_insertAt _ q a _ k hq hk)
  rw [eraseIdx_insertAt q a k hql] at e1
  exact e1.trans (congrArg (fun x : NDArray R => x.get q) (getElem_congr_idx (getD_insertAt q a k 0 hql)))

theorem stack_nil (axis : Int) : stackForward ([] : List (NDArray R)) axis = none := rfl

example : ∃ y, stackForward [(⟨[2], [1, 2]⟩ : NDArray Int), ⟨[2], [3, 4]⟩, ⟨[2], [5, 6]⟩] (-1) = some y ∧
    y.shape = [2, 3] ∧ y.data = [1, 3, 5, 2, 4, 6] ∧ y.get [1, 2] = 6 := by decide +kernel
example : stackForward [(⟨[2], [1, 2]⟩ : NDArray Int), ⟨[1, 2], [3, 4]⟩] 0 = none := by decide +kernel

/-- **unbind(dim)**: accepted exactly when `dim` lies in `[-ndim, ndim)`; there is one output per
    index along the axis, output `k` has the operand's shape with the axis removed, and
    `out_k[…] = x[…, k at dim, …]`. -/
theorem unbind_spec (x : NDArray R) (axis : Int) :
    let a := pyAxis x.shape.length axis
    ((unbindForward x axis).isSome ↔ InRange x.shape.length axis) ∧
    ∀ ys, unbindForward x axis = some ys →
      ys.length = x.shape.getD a 0 ∧
      ∀ k (hk : k < ys.length), ys[k].shape = x.shape.eraseIdx a ∧
        ∀ q, validIdx (x.shape.eraseIdx a) q → ys[k].get q = x.get (insertAt q a k) := by
  intro a
  have e : unbindForward x axis = if InRange x.shape.length axis then
      some ((List.range (x.shape.getD a 0)).map (take x a)) else none := by
    unfold unbindForward unbind
    rw [normAxis_eq]
    exact apply_ite (· >>= _) _ _ _
  refine spec_of_eq e fun _ => ⟨by rw [List.length_map, List.length_range], fun k hk => ?_⟩
  rw [List.getElem_map, List.getElem_range]
  exact ⟨dropAxes_single _ _, fun q hq => get_gather _ _ _ _ ((dropAxes_single _ _).symm ▸ hq)⟩

example : ∃ ys, unbindForward (⟨[2, 3], [1, 2, 3, 4, 5, 6]⟩ : NDArray Int) (-1) = some ys ∧
    ys.length = 3 ∧ ys[1]?.map (·.data) = some [2, 5] := by decide +kernel

end Concat


/-- **Python slice semantics, positive step**: the positions `start + step·i`, `i < count`, are
    exactly the integers `p` with `start ≤ p < stop` and `p ≡ start (mod step)` (that they lie in `[0, n)` is
    `slice_positions_in_range`). -/
theorem slice_positions_pos (n : Nat) (start stop : Option Int) (step : Int) (hs : 0 < step) (p : Int) :
    (∃ i : Nat, i < pyCount n start stop step ∧ p = pyStart n start step + step * i) ↔
      pyStart n start step ≤ p ∧ p < pyStop n stop step ∧ step ∣ (p - pyStart n start step) := by
  have hc := pyCount_lt_iff_pos n start stop step hs
  constructor
  · rintro ⟨i, hi, rfl⟩
    exact ⟨Int.le_add_of_nonneg_right (Int.mul_nonneg (Int.le_of_lt hs) (Int.natCast_nonneg i)), (hc i).1 hi,
      ⟨i, add_sub_cancel_left _ _⟩⟩
  · rintro ⟨h1, h2, ⟨q, hq⟩⟩
    have hq0 : 0 ≤ q :=
      Int.le_of_mul_le_mul_left (by rw [Int.mul_zero, ← hq]; exact Int.sub_nonneg_of_le h1) hs
    have hp : p = pyStart n start step + step * q.toNat := by rw [Int.toNat_of_nonneg hq0, ← hq, add_sub_cancel]
    exact ⟨q.toNat, (hc _).2 (hp ▸ h2), hp⟩

/-- **Python slice semantics, negative step**: the positions `start + step·i`, `i < count`, are
    exactly the integers `p` with `stop < p ≤ start` and `p ≡ start (mod step)`. -/
theorem slice_positions_neg (n : Nat) (start stop : Option Int) (step : Int) (hs : step < 0) (p : Int) :
    (∃ i : Nat, i < pyCount n start stop step ∧ p = pyStart n start step + step * i) ↔
      pyStop n stop step < p ∧ p ≤ pyStart n start step ∧ step ∣ (p - pyStart n start step) := by
  have hc := pyCount_lt_iff_neg n start stop step hs
  constructor
  · rintro ⟨i, hi, rfl⟩
    exact ⟨(hc i).1 hi,
      add_le_of_nonpos_right (Int.mul_nonpos_of_nonpos_of_nonneg (Int.le_of_lt hs) (Int.natCast_nonneg i)),
      ⟨i, add_sub_cancel_left _ _⟩⟩
  · rintro ⟨h1, h2, ⟨q, hq⟩⟩
    have hq0 : 0 ≤ q :=
      Int.le_of_mul_le_mul_left (by
        rw [Int.mul_zero, Int.neg_mul, ← hq]
        exact Int.neg_nonneg_of_nonpos (Int.sub_nonpos_of_le h2)) (Int.neg_pos_of_neg hs)
    have hp : p = pyStart n start step + step * q.toNat := by rw [Int.toNat_of_nonneg hq0, ← hq, add_sub_cancel]
    exact ⟨q.toNat, (hc _).2 (hp ▸ h1), hp⟩

theorem pyClamp_id (n : Nat) (v lo hi : Int) (h0 : 0 ≤ v) (h1 : lo ≤ v) (h2 : v ≤ hi) :
    pyClamp n v lo hi = v := by
  unfold pyClamp
  rw [if_neg (Int.not_lt.2 h0)]
  exact (if_neg (Int.not_lt.2 h1)).trans (if_neg (Int.not_lt.2 h2))

/-- `x[:]` : everything, in order -/
theorem slice_full (n : Nat) : pyStart n none 1 = 0 ∧ pyCount n none none 1 = n := by
  have e1 : pyStart n none 1 = 0 := if_pos Int.one_pos
  have e2 : pyStop n none 1 = n := if_pos Int.one_pos
  refine ⟨e1, eq_of_forall_lt_iff fun i => ?_⟩
  rw [pyCount_lt_iff_pos n none none 1 Int.one_pos, e1, e2, Int.zero_add, Int.one_mul, Int.ofNat_lt]

/-- `x[::-1]` : everything, reversed -/
theorem slice_reverse (n : Nat) : pyStart n none (-1) = (n : Int) - 1 ∧ pyCount n none none (-1) = n := by
  have e1 : pyStart n none (-1) = (n : Int) - 1 := if_neg (by decide)
  have e2 : pyStop n none (-1) = -1 := if_neg (by decide)
  refine ⟨e1, eq_of_forall_lt_iff fun i => ?_⟩
  rw [pyCount_lt_iff_neg n none none (-1) (by decide), e1, e2]; omega

/-- `x[a:b]` for `0 ≤ a ≤ b ≤ n` : positions `a, a+1, …, b-1` -/
theorem slice_window (n a b : Nat) (hab : a ≤ b) (hb : b ≤ n) :
    pyStart n (some (a : Int)) 1 = a ∧ pyCount n (some (a : Int)) (some (b : Int)) 1 = b - a := by
  have hc : ∀ c : Nat, c ≤ n → pyClamp n c 0 n = c := fun c hc =>
    pyClamp_id n c 0 n (Int.natCast_nonneg c) (Int.natCast_nonneg c) (Int.ofNat_le.2 hc)
  have e1 : pyStart n (some (a : Int)) 1 = a := (if_pos Int.one_pos).trans (hc a (hab.trans hb))
  have e2 : pyStop n (some (b : Int)) 1 = b := (if_pos Int.one_pos).trans (hc b hb)
  refine ⟨e1, eq_of_forall_lt_iff fun i => ?_⟩
  rw [pyCount_lt_iff_pos n _ _ 1 Int.one_pos, e1, e2, Int.one_mul, ← Int.natCast_add, Int.ofNat_lt,
    Nat.lt_sub_iff_add_lt']

example : pyStart 10 (some (-3)) (-2) = 7 ∧ pyCount 10 (some (-3)) (some 1) (-2) = 3 := by decide +kernel



/-- acceptance of an ellipsis-free index expression against a shape, item by item: an int must lie
    in `[-n, n)` of its axis, a slice must have a non-zero step, every entry of an integer list
    must lie in `[-n, n)`; `None` consumes no axis; an item without an axis left is an error -/
def SelOK : List Sel → Shape → Prop
  | [], _ => True
  | .newaxis :: r, sh => SelOK r sh
  | .int k :: r, n :: sh => InRange n k ∧ SelOK r sh
  | .slice _ _ st :: r, _ :: sh => st ≠ 0 ∧ SelOK r sh
  | .list ks :: r, n :: sh => (∀ k ∈ ks, InRange n k) ∧ SelOK r sh
  | _, _ => False

/-- result shape, item by item: an int contributes no axis, a slice its count, `None` a 1, an
    integer list its length -/
def selShape : List Sel → Shape → Shape
  | [], _ => []
  | .newaxis :: r, sh => 1 :: selShape r sh
  | .int _ :: r, _ :: sh => selShape r sh
  | .slice a b st :: r, n :: sh => pyCount n a b st :: selShape r sh
  | .list ks :: r, _ :: sh => ks.length :: selShape r sh
  | _, _ => []

/-- operand position read by output index `j`, axis by axis: an int gives its (normalised) value,
    a slice `start + step·j_m`, an integer list its `j_m`-th entry (normalised), where `j_m` is
    the next unused coordinate of `j`; `None` skips one coordinate of `j` -/
def selPos : List Sel → Shape → Idx → Idx
  | [], _, _ => []
  | .newaxis :: r, sh, j => selPos r sh (j.drop 1)
  | .int d :: r, n :: sh, j => pyAxis n d :: selPos r sh j
  | .slice a _ st :: r, n :: sh, j =>
      (pyStart n a st + st * (j.headD 0 : Nat)).toNat :: selPos r sh (j.drop 1)
  | .list ks :: r, n :: sh, j => pyAxis n (ks.getD (j.headD 0) 0) :: selPos r sh (j.drop 1)
  | _, _, _ => []

/-- stated with `match c` so that one lemma serves the four kinds of resolved item; the `match`es reduce once
    `c` is a constructor -/
theorem resolveIndex_go_spec_cons (c : RSel) {o : Option (List RSel)} {P : Prop} {S : Shape} {F : Idx → Idx}
    (ih : (o.isSome ↔ P) ∧ ∀ rs, o = some rs → indexShape rs = S ∧ ∀ j, imap rs j = F j) :
    ((o.map (c :: ·)).isSome ↔ P) ∧ ∀ rs, o.map (c :: ·) = some rs →
      indexShape rs = (match c with
        | .fixed _ => S | .range _ n _ => n :: S | .new => 1 :: S | .pick ks => ks.length :: S) ∧
      ∀ j, imap rs j = match c with
        | .fixed k => k :: F j
        | .range s0 _ st => (s0 + st * (j.headD 0 : Nat)).toNat :: F (j.drop 1)
        | .new => F (j.drop 1)
        | .pick ks => ks.getD (j.headD 0) 0 :: F (j.drop 1) := by
  refine ⟨by rw [Option.isSome_map]; exact ih.1, fun rs h => ?_⟩
  obtain ⟨rs', h0, rfl⟩ := Option.map_eq_some_iff.1 h
  obtain ⟨e1, e2⟩ := ih.2 rs' h0
  rw [indexShape_cons, e1]
  exact ⟨rfl, fun j => by cases c <;> simp only [imap, e2]⟩

/-- `resolveIndex.go` item by item: each equation `go_*` is a guard and one more resolved item in
    front of the recursive call, and `SelOK` / `selShape` / `selPos` unfold to the same by definition -/
theorem resolveIndex_go_spec (sels : List Sel) : ∀ (sh : Shape),
    ((resolveIndex.go sels sh).isSome ↔ SelOK sels sh) ∧
    ∀ rs, resolveIndex.go sels sh = some rs →
      indexShape rs = selShape sels sh ∧ ∀ j, imap rs j = selPos sels sh j := by
  induction sels with
  | nil =>
    intro sh
    rw [resolveIndex_go_nil]
    exact ⟨iff_of_true rfl trivial, fun rs h => Option.some.inj h ▸ ⟨rfl, fun j => rfl⟩⟩
  | cons x r ih =>
    intro sh
    cases x with
    | newaxis => rw [resolveIndex_go_newaxis]; exact resolveIndex_go_spec_cons RSel.new (ih sh)
    | ellipsis => rw [resolveIndex_go_ellipsis]; exact spec_of_none id
    | int k =>
      cases sh with
      | nil => rw [resolveIndex_go_no_axis _ _ Sel.noConfusion]; exact spec_of_none id
      | cons n sh => rw [resolveIndex_go_int]; exact spec_of_guard (resolveIndex_go_spec_cons (RSel.fixed (pyAxis n k)) (ih sh))
    | slice a b st =>
      cases sh with
      | nil => rw [resolveIndex_go_no_axis _ _ Sel.noConfusion]; exact spec_of_none id
      | cons n sh =>
        rw [resolveIndex_go_slice]
        exact spec_of_guard (resolveIndex_go_spec_cons (RSel.range (pyStart n a st) (pyCount n a b st) st) (ih sh))
    | list ks =>
      cases sh with
      | nil => rw [resolveIndex_go_no_axis _ _ Sel.noConfusion]; exact spec_of_none id
      | cons n sh =>
        rw [resolveIndex_go_list]
        obtain ⟨h1, h2⟩ := spec_of_guard (G := ∀ k ∈ ks, InRange n k)
          (resolveIndex_go_spec_cons (RSel.pick (ks.map (pyAxis n))) (ih sh))
        refine ⟨h1, fun rs h => ?_⟩
        obtain ⟨e1, e2⟩ := h2 rs h
        refine ⟨e1.trans (congrArg (· :: selShape r sh) (List.length_map _)), fun j => (e2 j).trans ?_⟩
        -- the `j`-th normalised entry is the normalised `j`-th entry (`getD`'s default 0 is its own normal form)
        have := List.getD_map (f := pyAxis n) (l := ks) (n := j.headD 0) (d := 0)
        rw [pyAxis_zero] at this
        exact congrArg (· :: selPos r sh (j.drop 1)) this


section IndexingMain

variable {R : Type} [CommRing R]

/-- **`x[sels]`** (basic indexing with ints — negative included —, slices with any non-zero step,
    one `...`, `None`, and one integer list).  With `E` the expression after the ellipsis (or the
    missing tail) has been filled with `:` so that every operand axis has its item:
    accepted exactly when the expression is in the supported fragment (`SelGuard`) and every item
    is valid for its axis (`SelOK`); the result shape lists, in order, the slice counts, a 1 per
    `None`, the list length — ints contribute nothing (`selShape`); and the entry at `j` is the
    operand's entry at the position computed axis by axis (`selPos`): an int gives its normalised
    value, a slice gives `start + step·j_m`, a list its `j_m`-th (normalised) entry, `j_m` being the
    coordinate of `j` for the output axis that item produced.  That position is always a valid
    operand index.  Python's slice arithmetic is `pyStart`/`pyCount`, characterised by
    `slice_positions_pos`/`slice_positions_neg`. -/
theorem index_spec (x : NDArray R) (sels : List Sel) :
    let E := expandSels x.shape.length sels
    ((sliceForward x sels).isSome ↔ SelGuard x.shape.length sels ∧ SelOK E x.shape) ∧
    ∀ y, sliceForward x sels = some y →
      y.shape = selShape E x.shape ∧
      ∀ j, validIdx y.shape j →
        validIdx x.shape (selPos E x.shape j) ∧ y.get j = x.get (selPos E x.shape j) := by
  intro E
  obtain ⟨g1, g2⟩ := spec_of_guard (G := SelGuard x.shape.length sels) (resolveIndex_go_spec E x.shape)
  rw [← resolveIndex_eq] at g1 g2
  have e : sliceForward x sels =
      (resolveIndex x.shape sels).map fun rs => gather (indexShape rs) (indexMap rs) x := by
    show (resolveIndex x.shape sels).bind _ = _
    cases resolveIndex x.shape sels <;> rfl
  rw [e, Option.isSome_map]
  refine ⟨g1, fun y hy => ?_⟩
  obtain ⟨rs, h0, rfl⟩ := Option.map_eq_some_iff.1 hy
  obtain ⟨e1, e2⟩ := g2 rs h0
  refine ⟨e1, fun j hj => ?_⟩
  have hp : indexMap rs j = selPos E x.shape j := (indexMap_eq rs j).trans (e2 j)
  exact ⟨hp ▸ indexMap_valid x.shape sels rs h0 j hj, (get_gather _ _ x j hj).trans (congrArg x.get hp)⟩

/-- one item per operand axis and no ellipsis: nothing to fill in -/
theorem expandSels_full (n : Nat) (sels : List Sel) (h0 : nEllipsis sels = 0) (h1 : nConsuming sels = n) :
    expandSels n sels = sels := by
  rw [show expandSels n sels = _ from if_neg (h0 ▸ Nat.zero_ne_one), h1, Nat.sub_self]
  exact List.append_nil sels

/-- the position a full slice `:` reads is the output coordinate itself -/
theorem selPos_full_slice (n i : Nat) : (pyStart n none 1 + 1 * (i : Int)).toNat = i := by
  rw [(slice_full n).1, Int.zero_add, Int.one_mul, Int.toNat_natCast]

/-- the position `::-1` reads is the mirrored coordinate -/
theorem selPos_reverse (n i : Nat) (hi : i < n) : (pyStart n none (-1) + (-1) * (i : Int)).toNat = n - 1 - i := by
  rw [(slice_reverse n).1, Int.neg_mul, Int.one_mul, ← Int.sub_eq_add_neg,
    ← Int.natCast_pred_of_pos (Nat.zero_lt_of_lt hi), Int.toNat_sub]

/-- `x[-1, 3::-2]` on a 3×4 array -/
example : ∃ y, sliceForward (⟨[3, 4], [0, 1, 2, 3, 4, 5, 6, 7, 8, 9, 10, 11]⟩ : NDArray Int)
      [.int (-1), .slice (some 3) none (-2)] = some y ∧ y.shape = [2] ∧ y.data = [11, 9] := by decide +kernel
/-- `x[..., None, 0]` -/
example : ∃ y, sliceForward (⟨[3, 4], [0, 1, 2, 3, 4, 5, 6, 7, 8, 9, 10, 11]⟩ : NDArray Int)
      [.ellipsis, .newaxis, .int 0] = some y ∧ y.shape = [3, 1] ∧ y.data = [0, 4, 8] := by decide +kernel
/-- `x[[2, 0, -1]]` : the missing trailing item is `:` -/
example : ∃ y, sliceForward (⟨[3, 2], [0, 1, 2, 3, 4, 5]⟩ : NDArray Int)
      [.list [2, 0, -1]] = some y ∧ y.shape = [3, 2] ∧ y.data = [4, 5, 0, 1, 4, 5] := by decide +kernel
example : expandSels 3 [.int 0, .ellipsis] = [.int 0, .slice none none 1, .slice none none 1] := by decide +kernel
example : SelGuard 2 [.int (-1), .slice (some 3) none (-2)] ∧
    SelOK (expandSels 2 [.int (-1), .slice (some 3) none (-2)]) [3, 4] :=
  ⟨by decide, by decide, by decide, trivial⟩
/-- out-of-range int, zero step, two ellipses: rejected -/
example : sliceForward (⟨[3], [0, 1, 2]⟩ : NDArray Int) [.int 3] = none := by decide +kernel
example : sliceForward (⟨[3], [0, 1, 2]⟩ : NDArray Int) [.slice none none 0] = none := by decide +kernel
example : sliceForward (⟨[3], [0, 1, 2]⟩ : NDArray Int) [.ellipsis, .ellipsis] = none := by decide +kernel

end IndexingMain


/-! Concrete instances of the remaining theorems: their hypotheses are satisfiable. -/

/-- `movedim_entry` : `movedim(x, 0, -1)[2, 3, 1] = x[1, 2, 3]` on a 2×3×4 operand -/
example (x : NDArray Int) (hx : x.shape = [2, 3, 4]) :
    ∀ y, movedimForward x 0 (-1) = some y → y.get [2, 3, 1] = x.get [1, 2, 3] := by
  intro y h
  have := movedim_entry x y 0 (-1) h [2, 3] 1
  rw [hx] at this
  exact this ⟨by decide, by decide, trivial⟩ (by decide)

/-- `unsqueeze_one_spec` : `unsqueeze(-1)` of a 2×3 operand is 2×3×1 -/
example : ∃ y, unsqueezeForward (⟨[2, 3], [1, 2, 3, 4, 5, 6]⟩ : NDArray Int) [-1] = some y ∧
    y.shape = [2, 3, 1] ∧ y.data = [1, 2, 3, 4, 5, 6] :=
  unsqueeze_one_spec (⟨[2, 3], [1, 2, 3, 4, 5, 6]⟩ : NDArray Int) rfl (-1) (by decide)

example : squeezeForward (⟨[], [7]⟩ : NDArray Int) (.many [5, -9]) = some ⟨[], [7]⟩ :=
  squeeze_many_zero_d _ _ rfl

/-- `slice_positions_pos` : `range(1, 8, 3)` on an axis of size 10 contains 7 -/
example : ∃ i : Nat, i < pyCount 10 (some 1) (some 8) 3 ∧ (7 : Int) = pyStart 10 (some 1) 3 + 3 * i :=
  (slice_positions_pos 10 (some 1) (some 8) 3 (by decide) 7).2 ⟨by decide, by decide, ⟨2, by decide⟩⟩

/-- `slice_positions_neg` : `range(8, 1, -3)` does not contain 3 -/
example : ¬ ∃ i : Nat, i < pyCount 10 (some 8) (some 1) (-3) ∧ (3 : Int) = pyStart 10 (some 8) (-3) + (-3) * i := by
  rw [slice_positions_neg 10 (some 8) (some 1) (-3) (by decide) 3]
  rintro ⟨_, _, h⟩
  revert h
  decide

example : 0 ≤ pyStart 5 (some (-100)) 2 + 2 * ((2 : Nat) : Int) ∧ pyStart 5 (some (-100)) 2 + 2 * ((2 : Nat) : Int) < 5 :=
  slice_positions_in_range 5 (some (-100)) none 2 (by decide) 2 (by decide)

example : expandSels 2 [.int 0, .newaxis, .slice none none 2] = [.int 0, .newaxis, .slice none none 2] :=
  expandSels_full 2 _ (by decide) (by decide)


end Proofs.SpecOps
