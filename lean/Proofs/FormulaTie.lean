import Proofs.VJPBce
import SynapModel.Generated.KernelFormulas
/-!
# The formulas in the source, as translated on this run, are the formulas of the model — and are derivatives of each other

`SynapModel/Generated/KernelFormulas.lean` is rewritten from `/repo/synapgrad/cpu_ops.py` by `harness/formulas.py` on every
run (`Synap.Gen.<kernel>` = the arithmetic of the Python function applied to one element).  This file states, over ℝ:

* **calculus on the source formulas themselves** (`src_*`, stated with `SrcVJP`): each generated `*_backward` is linear in the upstream gradient and
  its factor is the derivative (`HasDerivAt`) of the generated `*_forward` on the op's domain — no model definition occurs in
  these statements, only what the translator read from the source;
* **the tie** (`lift_*`): the hand-written model kernels (`Synap.Kernels.*`, the thing the engine theorems and the
  correspondence run are about) of neg, exp, log, sqrt, pow, rpow, add, mul, relu, leaky relu, selu, tanh, sigmoid and the
  forward of mse apply exactly the generated formula element by element (each holds by `rfl`).  For the two binary
  cross-entropies the generated scalars are the scalars the model theorems are stated with (`gen_bce_*`).  Not tied: clone,
  the backward of mse.

A change of a formula in `cpu_ops.py` changes the generated definition; the theorems below then stop compiling.
-/
namespace Proofs.FormulaTie
open Synap Synap.NDArray Synap.Np Synap.Kernels Proofs.Calc Proofs.NL

def SrcVJP (fwd : ℝ → ℝ) (bwd : ℝ → ℝ → ℝ) (dom : ℝ → Prop) : Prop :=
  ∀ x, dom x → ∃ d, HasDerivAt fwd d x ∧ ∀ g, bwd g x = g * d

theorem SrcVJP.of {fwd : ℝ → ℝ} {bwd : ℝ → ℝ → ℝ} {dom : ℝ → Prop} (d : ℝ → ℝ)
    (hd : ∀ x, dom x → HasDerivAt fwd (d x) x) (hb : ∀ g x, bwd g x = g * d x) : SrcVJP fwd bwd dom :=
  fun x hx => ⟨d x, hd x hx, fun g => hb g x⟩

theorem epsilon_c_eq : (Gen.epsilon_c : ℝ) = (epsilon : ℝ) := rfl

theorem tr_exp (x : ℝ) : (Transc.exp x : ℝ) = Real.exp x := rfl
theorem tr_log (x : ℝ) : (Transc.log x : ℝ) = Real.log x := rfl
theorem tr_sqrt (x : ℝ) : (Transc.sqrt x : ℝ) = Real.sqrt x := rfl
theorem tr_tanh (x : ℝ) : (Transc.tanh x : ℝ) = Real.tanh x := rfl
theorem tr_pow (x y : ℝ) : (Transc.pow x y : ℝ) = x ^ y := rfl

theorem src_add_left (b : ℝ) : SrcVJP (fun a => Gen.add_forward a b) (fun g _ => (Gen.add_backward g).1) (fun _ => True) :=
  SrcVJP.of (fun _ => 1) (fun x _ => (hasDerivAt_id' x).add_const b) (fun g _ => mul_comm 1 g)

theorem src_add_right (a : ℝ) : SrcVJP (fun b => Gen.add_forward a b) (fun g _ => (Gen.add_backward g).2) (fun _ => True) :=
  SrcVJP.of (fun _ => 1) (fun x _ => (hasDerivAt_id' x).const_add a) (fun g _ => mul_comm 1 g)

theorem src_mul_left (b : ℝ) : SrcVJP (fun a => Gen.mul_forward a b) (fun g a => (Gen.mul_backward g a b).1) (fun _ => True) :=
  SrcVJP.of (fun _ => b) (fun x _ => ((hasDerivAt_id' x).mul_const b).congr_deriv (one_mul b)) (fun _ _ => rfl)

theorem src_mul_right (a : ℝ) : SrcVJP (fun b => Gen.mul_forward a b) (fun g b => (Gen.mul_backward g a b).2) (fun _ => True) :=
  SrcVJP.of (fun _ => a) (fun x _ => ((hasDerivAt_id' x).const_mul a).congr_deriv (mul_one a)) (fun _ _ => rfl)

theorem src_neg : SrcVJP Gen.neg_forward (fun g _ => Gen.neg_backward g) (fun _ => True) :=
  SrcVJP.of (fun _ => -1) (fun x _ => (hasDerivAt_id' x).neg) (fun g _ => (mul_neg_one g).symm)

theorem src_clone : SrcVJP Gen.clone_forward (fun g _ => Gen.clone_backward g) (fun _ => True) :=
  SrcVJP.of (fun _ => 1) (fun x _ => hasDerivAt_id' x) (fun g _ => (mul_one g).symm)

theorem src_pow (n : ℝ) : SrcVJP (fun x => Gen.pow_forward x n) (fun g x => Gen.pow_backward g x n) (fun x => x ≠ 0 ∨ 1 ≤ n) :=
  SrcVJP.of (fun x => n * x ^ (n - 1)) (fun _ hx => Real.hasDerivAt_rpow_const hx) (fun _ _ => mul_comm _ _)

/-- the source's backward takes the saved forward result (also for `exp`, `sqrt`, `tanh`, `sigmoid`) -/
theorem src_rpow (n : ℝ) (hn : 0 < n) :
    SrcVJP (fun x => Gen.rpow_forward x n) (fun g x => Gen.rpow_backward g (Gen.rpow_forward x n) n) (fun _ => True) :=
  SrcVJP.of (fun x => n ^ x * Real.log n) (fun x _ => (Real.hasStrictDerivAt_const_rpow hn x).hasDerivAt) (fun _ _ => mul_comm _ _)

theorem src_exp : SrcVJP Gen.exp_forward (fun g x => Gen.exp_backward g (Gen.exp_forward x)) (fun _ => True) :=
  SrcVJP.of Real.exp (fun x _ => Real.hasDerivAt_exp x) (fun _ _ => rfl)

theorem src_log : SrcVJP Gen.log_forward Gen.log_backward (fun x => x + (Gen.epsilon_c : ℝ) ≠ 0) :=
  SrcVJP.of (fun x => 1 / (x + (epsilon : ℝ))) (fun _ hx => hasDerivAt_log_eps hx) (fun g _ => div_eq_mul_one_div g _)

theorem src_sqrt : SrcVJP Gen.sqrt_forward (fun g x => Gen.sqrt_backward g (Gen.sqrt_forward x)) (fun x => 0 < x) :=
  SrcVJP.of (fun x => 1 / (2 * Real.sqrt x)) (fun _ hx => Real.hasDerivAt_sqrt hx.ne') (fun g x => by
    unfold Gen.sqrt_backward Gen.sqrt_forward; exact div_eq_mul_one_div g _)

theorem src_tanh : SrcVJP Gen.tanh_forward (fun g x => Gen.tanh_backward g (Gen.tanh_forward x)) (fun _ => True) :=
  SrcVJP.of (fun x => 1 - Real.tanh x ^ 2) (fun x _ => hasDerivAt_tanh x) (fun g x => by
    unfold Gen.tanh_backward Gen.tanh_forward; rw [tr_tanh]; ring)

theorem src_sigmoid : SrcVJP Gen.sigmoid_forward (fun g x => Gen.sigmoid_backward g (Gen.sigmoid_forward x)) (fun _ => True) :=
  SrcVJP.of (fun x => (1 / (1 + Real.exp (-x))) * (1 - 1 / (1 + Real.exp (-x)))) (fun x _ => hasDerivAt_sigmoid_div x) (fun _ _ => mul_assoc _ _ _)

theorem gen_relu_forward (x : ℝ) : Gen.relu_forward x = max 0 x := maxS_eq_max 0 x

theorem src_relu : SrcVJP Gen.relu_forward Gen.relu_backward (fun x => x ≠ 0) :=
  SrcVJP.of (fun x => if 0 < x then 1 else 0) (fun x hx => by
    rw [show Gen.relu_forward = fun x : ℝ => max 0 x from funext gen_relu_forward]
    exact hasDerivAt_relu hx) (fun _ _ => rfl)

/-- at the kink the source's choice (factor 0) is a subgradient of `max 0 ·` -/
theorem src_relu_kink (g y : ℝ) : Gen.relu_backward g 0 = g * 0 ∧ Gen.relu_forward y ≥ Gen.relu_forward 0 + 0 * (y - 0) := by
  refine ⟨congrArg (g * ·) (if_neg (lt_irrefl 0)), ?_⟩
  rw [gen_relu_forward, gen_relu_forward, max_self, zero_mul, add_zero]
  exact le_max_left 0 y

theorem src_leaky_relu (s : ℝ) :
    SrcVJP (fun x => Gen.leaky_relu_forward x s) (fun g x => Gen.leaky_relu_backward g x s) (fun x => x ≠ 0) :=
  SrcVJP.of (fun x => if 0 < x then 1 else s) (fun _ hx => hasDerivAt_leaky_relu s hx)
    (fun g x => leaky_relu_factor_eq g x s)

theorem gen_selu_forward (x α s : ℝ) (hα : 0 < α) :
    Gen.selu_forward x α s = s * (if 0 < x then x else α * (Real.exp x - 1)) :=
  congrArg (s * ·) (selu_clamp_eq x α hα)

theorem gen_selu_backward (g x α s : ℝ) :
    Gen.selu_backward g x α s = g * (s * (if 0 < x then 1 else α * Real.exp x)) :=
  selu_factor_eq g x α s

theorem src_selu (α s : ℝ) (hα : 0 < α) :
    SrcVJP (fun x => Gen.selu_forward x α s) (fun g x => Gen.selu_backward g x α s) (fun x => x ≠ 0) :=
  SrcVJP.of (fun x => s * (if 0 < x then 1 else α * Real.exp x))
    (fun x hx => by simpa only [gen_selu_forward _ α s hα] using hasDerivAt_selu α s hx)
    (fun g x => gen_selu_backward g x α s)

/-- the constants `nn.functional.selu` passes satisfy the hypothesis of `src_selu` -/
example : 0 < (seluAlpha : ℝ) := seluAlpha_pos

theorem src_mse (t : ℝ) : SrcVJP (fun p => Gen.mse_loss_forward p t) (fun g p => Gen.mse_loss_backward g p t) (fun _ => True) :=
  SrcVJP.of (fun x => 2 * (x - t)) (fun x _ =>
    (((hasDerivAt_id' x).sub_const t).mul ((hasDerivAt_id' x).sub_const t)).congr_deriv (by ring)) (fun g x => by
    unfold Gen.mse_loss_backward; exact mul_assoc _ _ _)

/-- the source's BCE formulas are the scalars `bceScalar` / `bceFactor` the model theorems (`Props.C02.bce_vjp`) are about -/
theorem gen_bce_forward (p t : ℝ) : Gen.bce_loss_forward p t = bceScalar p t := bce_clamp_eq _ _

theorem gen_bce_backward (g p t : ℝ) : Gen.bce_loss_backward g p t = bceFactor p t * g := rfl

/-- binary cross-entropy off the clamp level and where both logarithms are taken of non-zero numbers -/
theorem src_bce (t : ℝ) : SrcVJP (fun p => Gen.bce_loss_forward p t) (fun g p => Gen.bce_loss_backward g p t)
    (fun p => p + (epsilon : ℝ) ≠ 0 ∧ 1 - p + (epsilon : ℝ) ≠ 0 ∧
      -(t * Real.log (p + (epsilon : ℝ)) + (1 - t) * Real.log (1 - p + (epsilon : ℝ))) ≠ -(Real.log (epsilon : ℝ))) :=
  SrcVJP.of (fun x => bceFactor x t) (fun x hx => by
    rw [show (fun p => Gen.bce_loss_forward p t) = fun p => bceScalar p t from funext fun p => gen_bce_forward p t]
    exact bce_scalar_deriv x t hx.1 hx.2.1 hx.2.2) (fun g x => mul_comm _ _)

theorem gen_bce_logits_forward (x y : ℝ) : Gen.bce_with_logits_loss_forward x y = bceLogitsScalar x y := rfl

/-- the source tests `tn == 0` where the model tests `tn > 0`: the same, as `tn = max 0 (−x) ≥ 0` -/
theorem gen_bce_logits_backward (g x y : ℝ) : Gen.bce_with_logits_loss_backward g x y = g * bceLogitsFactor x y := by
  have hnn : ¬ maxS (0 : ℝ) (-x) < 0 := (maxS_eq_max (0 : ℝ) (-x) ▸ le_max_left _ _).not_gt
  unfold Gen.bce_with_logits_loss_backward bceLogitsFactor Gen.relu_forward
  simp only [and_iff_right hnn, ite_not]
  rfl

/-- binary cross-entropy with logits: the source keeps an `ε` in one denominator, so its factor is the derivative up to `ε` -/
theorem src_bce_logits (x y : ℝ) :
    HasDerivAt (fun v => Gen.bce_with_logits_loss_forward v y) ((1 - y) - 1 / (1 + Real.exp x)) x ∧
    ∀ g, |Gen.bce_with_logits_loss_backward g x y - g * ((1 - y) - 1 / (1 + Real.exp x))| ≤ |g| * (epsilon : ℝ) := by
  refine ⟨bce_logits_scalar_deriv x y, fun g => ?_⟩
  rw [gen_bce_logits_backward, ← mul_sub, abs_mul]
  exact mul_le_mul_of_nonneg_left (bce_logits_factor_close x y) (abs_nonneg g)

/-! ## the tie: the model kernels apply the generated formulas element by element -/

theorem lift_neg (a g : NDArray ℝ) : negForward a = a.map Gen.neg_forward ∧ negBackward g = g.map Gen.neg_backward := ⟨rfl, rfl⟩
theorem lift_exp (a g o : NDArray ℝ) : expForward a = a.map Gen.exp_forward ∧ expBackward g o = zipSame Gen.exp_backward g o := ⟨rfl, rfl⟩
theorem lift_log (a g : NDArray ℝ) : logForward a = a.map Gen.log_forward ∧ logBackward g a = zipSame Gen.log_backward g a := ⟨rfl, rfl⟩
theorem lift_sqrt (a g o : NDArray ℝ) : sqrtForward a = a.map Gen.sqrt_forward ∧ sqrtBackward g o = zipSame Gen.sqrt_backward g o := ⟨rfl, rfl⟩
theorem lift_pow (a g : NDArray ℝ) (n : ℝ) :
    powForward a n = a.map (fun x => Gen.pow_forward x n) ∧ powBackward g a n = zipSame (fun gv x => Gen.pow_backward gv x n) g a := ⟨rfl, rfl⟩
theorem lift_rpow (a g o : NDArray ℝ) (n : ℝ) :
    rpowForward a n = a.map (fun x => Gen.rpow_forward x n) ∧ rpowBackward g o n = zipSame (fun gv ov => Gen.rpow_backward gv ov n) g o := ⟨rfl, rfl⟩
theorem lift_add (a b : NDArray ℝ) : addForward a b = bcast2 Gen.add_forward a b := rfl
theorem lift_mul (a b g : NDArray ℝ) : mulForward a b = bcast2 Gen.mul_forward a b ∧
    mulBackward g a b = (do
      let ga ← bcast2 (fun gv bv => (Gen.mul_backward gv 0 bv).1) g b
      let gb ← bcast2 (fun gv av => (Gen.mul_backward gv av 0).2) g a
      pure (unbroadcast ga a.shape, unbroadcast gb b.shape)) := ⟨rfl, rfl⟩
/-- `add_backward` multiplies the upstream gradient by `ones`: the model passes it on unchanged -/
theorem gen_add_backward (g : ℝ) : Gen.add_backward g = (g, g) := congrArg₂ Prod.mk (one_mul g) (one_mul g)

theorem lift_relu (a g : NDArray ℝ) : reluForward a = a.map Gen.relu_forward ∧ reluBackward g a = zipSame Gen.relu_backward g a := ⟨rfl, rfl⟩
theorem lift_leaky_relu (a g : NDArray ℝ) (s : ℝ) : leakyReluForward a s = a.map (fun x => Gen.leaky_relu_forward x s) ∧
    leakyReluBackward g a s = zipSame (fun gv x => Gen.leaky_relu_backward gv x s) g a := ⟨rfl, rfl⟩
theorem lift_selu (a g : NDArray ℝ) (α s : ℝ) : seluForward a α s = a.map (fun x => Gen.selu_forward x α s) ∧
    seluBackward g a α s = zipSame (fun gv x => Gen.selu_backward gv x α s) g a := ⟨rfl, rfl⟩
theorem lift_tanh (a g o : NDArray ℝ) : tanhForward a = a.map Gen.tanh_forward ∧ tanhBackward g o = zipSame Gen.tanh_backward g o := ⟨rfl, rfl⟩
theorem lift_sigmoid (a g o : NDArray ℝ) : sigmoidForward a = a.map Gen.sigmoid_forward ∧
    sigmoidBackward g o = zipSame Gen.sigmoid_backward g o := ⟨rfl, rfl⟩
theorem lift_mse (p t : NDArray ℝ) :
    mseForward p t = if p.shape = t.shape then some (zipSame Gen.mse_loss_forward p t) else none := rfl

end Proofs.FormulaTie
