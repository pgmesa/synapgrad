import SynapModel.EngineStack
import Proofs.EngineStruct
/-!
# The explicit-stack traversal of the code equals the recursive traversal of the model

A stack of frames is given a recursive meaning (`stk_unwind`: finish the top frame with `stk_body`, list its node,
go on below).  One turn of the machine keeps that meaning and lowers a potential (pending frame entries plus the
cost of the nodes not yet visited) that starts at `stackFuel ns - 1`, so the fuel of `traverseStack` suffices.
`stk_unwind` runs every frame on the same fuel: on graphs whose operands precede their results `visit` does not
depend on its fuel beyond the node index (`stk_visit_fuel`).
-/
namespace Proofs.EngineStack
open Synap.Engine Proofs.Engine

variable {G : Type}

theorem stk_zeroCheck_eq (s : DfsSt G) (c : Nat) : zeroCheck s c = enc s c := rfl
theorem stk_childrenOf_eq (ns : Graph G) (v : Nat) : childrenOf ns v = chOf ns v := rfl

theorem stk_body_skel (f : Nat) (cs : List Nat) (s : DfsSt G) : Skel s.ns (stk_body f s cs).ns :=
  stk_body_ns_inv (I := Skel s.ns) (fun t c h => h.trans (enc_skel t c)) f
    (fun v t h => h.trans (visit_skel f v t)) cs s (Skel.refl _)

def stk_unwind (f : Nat) : DfsSt G → List Frame → DfsSt G
  | s, [] => s
  | s, fr :: st =>
    stk_unwind f { stk_body f s fr.rest with ordered := (stk_body f s fr.rest).ordered ++ [fr.node] } st

theorem stk_unwind_cons (f : Nat) (s : DfsSt G) (v : Nat) (rest : List Nat) (st : List Frame) :
    stk_unwind f s (⟨v, rest⟩ :: st) =
      stk_unwind f { stk_body f s rest with ordered := (stk_body f s rest).ordered ++ [v] } st := rfl

theorem stk_visit_visited (f v : Nat) (s : DfsSt G) (h : s.visited.contains v = true) :
    visit f v s = s := by
  cases f with
  | zero => rfl
  | succ f => rw [visit_succ, if_pos h]

/-- By `visit_rule`: the invariant of the fold says that, under any other sufficient fuel, what remains of the
    fold from the current state is the whole fold. -/
theorem stk_visit_fuel (ns0 : Graph G) (hw : ∀ u c, c ∈ chOf ns0 u → c < u) (f f' v : Nat) (s : DfsSt G)
    (hv : v < f) (hv' : v < f') (hs : Skel ns0 s.ns) : visit f v s = visit f' v s := by
  refine (visit_rule ns0 hw (fun _ _ => True) (fun v s s' => ∀ f', v < f' → visit f' v s = s')
    (fun v s cs t => v ∉ s.visited ∧ ∀ f', v ≤ f' →
      stk_body f' { s with visited := v :: s.visited } (chOf s.ns v) = stk_body f' t cs)
    ?_ ?_ ?_ ?_ f v s hv hs trivial f' hv').symm
  · intro v s _ hvis f' _
    exact stk_visit_visited f' v s (by simpa using hvis)
  · intro v s hs _ hvis
    exact ⟨hvis, fun f' _ => by rw [chOf_skel hs v]⟩
  · intro v s c cs t hc ⟨hvis, hj⟩
    refine ⟨trivial, fun t' q => ⟨hvis, fun f' hf' => ?_⟩⟩
    rw [hj f' hf', stk_body_cons, q f' (Nat.lt_of_lt_of_le (hw v c hc) hf')]
  · intro v s t ⟨hvis, hj⟩ f' hf'
    obtain ⟨f', rfl⟩ := Nat.exists_eq_succ_of_ne_zero (Nat.ne_of_gt (Nat.zero_lt_of_lt hf'))
    rw [visit_succ, if_neg (by simpa using hvis)]
    simp only [hj f' (Nat.le_of_lt_succ hf'), stk_body_nil]

/-- cost of the nodes not yet visited: each will be pushed at most once and then costs one turn per
    operand plus the pop -/
def stk_unv (ns : Graph G) (vis : List Nat) : Nat :=
  (((List.range ns.length).filter (· ∉ vis)).map (fun i => (chOf ns i).length + 1)).sum

theorem stk_unv_nil (ns : Graph G) : stk_unv ns [] = (ns.map (fun n => n.children.length + 1)).sum := by
  have : ns.map (fun n => n.children.length + 1)
      = (List.range ns.length).map (fun i => (chOf ns i).length + 1) := by
    apply List.ext_getElem (by simp)
    intro i h1 h2
    simp [chOf, List.getElem?_eq_getElem (by simpa using h1 : i < ns.length)]
  rw [stk_unv, this, List.filter_eq_self.mpr (by simp)]

/-- visiting `c` takes its term out of the sum: the unvisited indices are a permutation of `c` and the rest -/
theorem stk_unv_push (ns : Graph G) (c : Nat) (vis : List Nat) (hc : c < ns.length) (hv : c ∉ vis) :
    stk_unv ns (c :: vis) + ((chOf ns c).length + 1) = stk_unv ns vis := by
  have hnd : ((List.range ns.length).filter (· ∉ vis)).Nodup := List.nodup_range.sublist List.filter_sublist
  have hm : c ∈ (List.range ns.length).filter (· ∉ vis) := by simp [hc, hv]
  have := ((List.perm_cons_erase hm).map (fun i => (chOf ns i).length + 1)).sum_nat
  rw [hnd.erase_eq_filter, List.filter_filter] at this
  unfold stk_unv
  rw [this, Nat.add_comm]
  congr 3
  apply List.filter_congr
  intro i _
  by_cases e : i = c <;> simp [e]

def stk_fcost (st : List Frame) : Nat := (st.map (fun fr => fr.rest.length + 1)).sum

theorem stk_fcost_cons (v : Nat) (rest : List Nat) (st : List Frame) :
    stk_fcost (⟨v, rest⟩ :: st) = (rest.length + 1) + stk_fcost st := by
  simp [stk_fcost]

def stk_pot (ns0 : Graph G) (s : DfsSt G) (st : List Frame) : Nat :=
  stk_fcost st + stk_unv ns0 s.visited

/-- pending operands are nodes of the graph: only those have a term in `stk_unv` to pay for their push -/
def stk_Inv (ns0 : Graph G) (s : DfsSt G) (st : List Frame) : Prop :=
  Skel ns0 s.ns ∧ ∀ fr ∈ st, ∀ c ∈ fr.rest, c < ns0.length

theorem stk_step (ns0 : Graph G) (hw : ∀ u c, c ∈ chOf ns0 u → c < u) (s : DfsSt G) (fr : Frame)
    (st : List Frame) (hI : stk_Inv ns0 s (fr :: st)) :
    stk_Inv ns0 (stackStep s (fr :: st)).1 (stackStep s (fr :: st)).2 ∧
    stk_pot ns0 (stackStep s (fr :: st)).1 (stackStep s (fr :: st)).2 + 1 ≤ stk_pot ns0 s (fr :: st) ∧
    stk_unwind ns0.length (stackStep s (fr :: st)).1 (stackStep s (fr :: st)).2 =
      stk_unwind ns0.length s (fr :: st) := by
  obtain ⟨hsk, hrest⟩ := hI
  obtain ⟨v, rest⟩ := fr
  obtain ⟨hfr, hst⟩ := List.forall_mem_cons.mp hrest
  cases rest with
  | nil =>
    have hstep : stackStep s (⟨v, []⟩ :: st) = ({ s with ordered := s.ordered ++ [v] }, st) := rfl
    rw [hstep]
    refine ⟨⟨hsk, hst⟩, ?_, ?_⟩
    · simp only [stk_pot, stk_fcost_cons, List.length_nil]; omega
    · rw [stk_unwind_cons, stk_body_nil]
  | cons c cs =>
    obtain ⟨hcn, hcs⟩ := List.forall_mem_cons.mp hfr
    have hstep : stackStep s (⟨v, c :: cs⟩ :: st) =
        if (enc s c).visited.contains c then (enc s c, ⟨v, cs⟩ :: st)
        else ({ enc s c with visited := c :: (enc s c).visited },
              ⟨c, chOf (enc s c).ns c⟩ :: ⟨v, cs⟩ :: st) := rfl
    have hsk' : Skel ns0 (enc s c).ns := hsk.trans (enc_skel s c)
    have hrest' : ∀ fr ∈ (⟨v, cs⟩ : Frame) :: st, ∀ c ∈ fr.rest, c < ns0.length :=
      List.forall_mem_cons.mpr ⟨hcs, hst⟩
    by_cases hvis : (enc s c).visited.contains c = true
    · rw [hstep, if_pos hvis]
      refine ⟨⟨hsk', hrest'⟩, ?_, ?_⟩
      · simp only [stk_pot, stk_fcost_cons, enc_visited, List.length_cons]; omega
      · rw [stk_unwind_cons, stk_unwind_cons, stk_body_cons, stk_visit_visited _ _ _ hvis]
    · rw [hstep, if_neg hvis]
      have hch : chOf (enc s c).ns c = chOf ns0 c := (chOf_skel hsk' c).symm
      refine ⟨⟨hsk', List.forall_mem_cons.mpr ⟨fun c' hc' => ?_, hrest'⟩⟩, ?_, ?_⟩
      · exact Nat.lt_trans (hw c c' (hch ▸ hc')) hcn
      · have hp := stk_unv_push ns0 c s.visited hcn (fun h => hvis (by simpa using h))
        simp only [stk_pot, stk_fcost_cons, enc_visited, List.length_cons, hch]
        omega
      · -- the frame pushed for `c` runs `visit` on `c` with the fuel of the stack, one less than `visit_succ` gives
        rw [stk_unwind_cons, stk_unwind_cons, stk_unwind_cons, stk_body_cons,
          stk_visit_fuel ns0 hw ns0.length (ns0.length + 1) c (enc s c) hcn (Nat.lt_succ_of_lt hcn) hsk',
          visit_succ, if_neg hvis]

theorem stk_run (ns0 : Graph G) (hw : ∀ u c, c ∈ chOf ns0 u → c < u) :
    ∀ (F : Nat) (s : DfsSt G) (st : List Frame), stk_Inv ns0 s st → stk_pot ns0 s st ≤ F →
      runStack F s st = stk_unwind ns0.length s st := by
  intro F
  induction F with
  | zero =>
    intro s st _ hF
    cases st with
    | nil => rfl
    | cons fr st =>
      obtain ⟨v, rest⟩ := fr
      simp only [stk_pot, stk_fcost_cons] at hF
      omega
  | succ F ih =>
    intro s st hI hF
    cases st with
    | nil => rfl
    | cons fr st =>
      obtain ⟨hI', hp, hu⟩ := stk_step ns0 hw s fr st hI
      exact (ih _ _ hI' (Nat.le_of_succ_le_succ (Nat.le_trans hp hF))).trans hu

/-- **The loop of `Tensor.backward` computes the recursive depth-first traversal**: on every graph
    whose operands precede their results, from every root, the explicit-stack machine ends in exactly
    the state of `traverse` — same visited set, same post-order, same gradient buffers, same
    zero-initialisation events in the same order. -/
theorem traverseStack_eq_traverse (ns : Graph G) (hw : WFG ns) (root : Nat) (hr : root < ns.length) :
    traverseStack ns root = traverse ns root := by
  have hch := WFG.ch hw
  have hI : stk_Inv ns ⟨[root], [], ns, []⟩ [⟨root, childrenOf ns root⟩] :=
    ⟨Skel.refl _, List.forall_mem_cons.mpr
      ⟨fun c hc => Nat.lt_trans (hch root c hc) hr, fun _ h => absurd h List.not_mem_nil⟩⟩
  have hpot : stk_pot ns ⟨[root], [], ns, []⟩ [⟨root, childrenOf ns root⟩] ≤ stackFuel ns := by
    have hp := stk_unv_push ns root [] hr (by simp)
    rw [stk_unv_nil] at hp
    simp only [stk_pot, stk_fcost, List.map_cons, List.map_nil, List.sum_cons, List.sum_nil, stackFuel,
      stk_childrenOf_eq]
    omega
  unfold traverseStack
  rw [stk_run ns hch (stackFuel ns) _ _ hI hpot]
  -- `traverse` is `visit` on fuel `ns.length + 1`: its first unfolding is the frame of the root
  rfl

/-- `Tensor.backward` with the traversal phase performed by the explicit-stack loop of the code -/
def backwardStack [Add G] (ns : Graph G) (root : Nat) (g : G) (retainAll : Bool) : Option (Graph G × List TrEv) :=
  match ns[root]? with
  | none => none
  | some r => if !r.reqGrad then none else finish (traverseStack ns root) root g retainAll

end Proofs.EngineStack
