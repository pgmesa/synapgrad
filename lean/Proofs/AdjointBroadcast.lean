import Proofs.AdjointGeneral
/-!
# Broadcasting: shape facts, `unbroadcast` as the transpose of the broadcast projection
-/
namespace Proofs.Adjoint
open Synap Synap.NDArray Synap.Np Proofs.Core

/-! ### shapes: broadcasting is symmetric in the operands, so "right" facts are "left" facts -/
theorem bcRule_comm (x y : Nat) : bcRule (x, y) = bcRule (y, x) := by
  show (if x = y then some x else if x = 1 then some y else if y = 1 then some x else none)
    = (if y = x then some y else if y = 1 then some x else if x = 1 then some y else none)
  by_cases h : x = y
  · rw [h]
  · rw [if_neg h, if_neg (Ne.symm h)]
    by_cases hx : x = 1
    · rw [if_pos hx, if_neg (fun hy => h (hx.trans hy.symm)), if_pos hx]
    · rw [if_neg hx, if_neg hx]

theorem mapM_bcRule_comm (p q : List Nat) : (List.zip p q).mapM bcRule = (List.zip q p).mapM bcRule := by
  rw [← List.zip_swap q p, List.mapM_map]
  exact congrArg (List.mapM · _) (funext fun x => bcRule_comm x.2 x.1)

theorem broadcastShapes_comm (a b : Shape) : broadcastShapes a b = broadcastShapes b a := by
  rw [broadcastShapes_eq, broadcastShapes_eq, Nat.max_comm, mapM_bcRule_comm]

theorem broadcastShapes_absorb_left (p s : Shape) (hl : p.length ≤ s.length)
    (h : List.Forall₂ BcOK (List.replicate (s.length - p.length) 1 ++ p) s) :
    broadcastShapes s p = some s := by
  rw [broadcastShapes_eq]
  rw [Nat.max_eq_left hl, Nat.sub_self, List.replicate_zero]
  exact mapM_bcRule_absorb_left _ _ h

theorem broadcastShapes_absorb_right (p s : Shape) (hl : p.length ≤ s.length)
    (h : List.Forall₂ BcOK (List.replicate (s.length - p.length) 1 ++ p) s) :
    broadcastShapes p s = some s :=
  (broadcastShapes_comm p s).trans (broadcastShapes_absorb_left p s hl h)

theorem broadcastShapes_absorb (a b s : Shape) (h : broadcastShapes a b = some s) :
    broadcastShapes s a = some s ∧ broadcastShapes s b = some s ∧
    broadcastShapes a s = some s ∧ broadcastShapes b s = some s := by
  obtain ⟨hl, h1, h2⟩ := broadcastShapes_inv a b s h
  have la : a.length ≤ s.length := hl ▸ Nat.le_max_left _ _
  have lb : b.length ≤ s.length := hl ▸ Nat.le_max_right _ _
  exact ⟨broadcastShapes_absorb_left a s la h1, broadcastShapes_absorb_left b s lb h2,
    broadcastShapes_absorb_right a s la h1, broadcastShapes_absorb_right b s lb h2⟩

theorem zipWith_bc_self (s : Shape) (j : Idx) (h : validIdx s j) :
    List.zipWith (fun n x => if n = 1 then 0 else x) s j = j := by
  rw [validIdx_iff_forall₂] at h
  induction h with
  | nil => rfl
  | cons hx _ ih =>
    rw [List.zipWith_cons_cons, ih]
    -- an axis of size 1 is only ever read at 0
    exact congrArg (· :: _) (ite_eq_right_iff.2 fun h1 => (Nat.lt_one_iff.1 (h1 ▸ hx)).symm)

theorem bcastIdx_self (s : Shape) (j : Idx) (h : validIdx s j) : bcastIdx s j = j := by
  unfold bcastIdx
  rw [validIdx_length s j h, Nat.sub_self]
  exact zipWith_bc_self s j h

section
variable {α : Type} [Zero α]

theorem bcast2_eq (f : α → α → α) (x y : NDArray α) :
    bcast2 f x y = (broadcastShapes x.shape y.shape).map fun s =>
      ofFn s fun j => f (x.get (bcastIdx x.shape j)) (y.get (bcastIdx y.shape j)) := by
  rw [Option.map_eq_bind]
  rfl

theorem bcast2_some (f : α → α → α) (x y : NDArray α) (s : Shape)
    (hs : broadcastShapes x.shape y.shape = some s) :
    bcast2 f x y = some (ofFn s (fun j => f (x.get (bcastIdx x.shape j)) (y.get (bcastIdx y.shape j)))) := by
  rw [bcast2_eq, hs]
  rfl

theorem bcast2_same (f : α → α → α) (x y : NDArray α) (hs : y.shape = x.shape) :
    bcast2 f x y = some (ofFn x.shape fun i => f (x.get i) (y.get i)) := by
  rw [bcast2_eq, hs, broadcastShapes_self]
  exact congrArg (fun d => some (NDArray.mk x.shape d)) (map_allIdx_congr _ _ _ fun i hi => by rw [bcastIdx_self _ _ hi])

theorem bcast2_inv (f : α → α → α) (x y z : NDArray α) (h : bcast2 f x y = some z) :
    broadcastShapes x.shape y.shape = some z.shape := by
  rw [bcast2_eq] at h
  obtain ⟨s, hs, rfl⟩ := Option.map_eq_some_iff.1 h
  exact hs

theorem bcast2_comm (f : α → α → α) (hf : ∀ x y, f x y = f y x) (x y : NDArray α) :
    bcast2 f x y = bcast2 f y x := by
  rw [bcast2_eq, bcast2_eq, broadcastShapes_comm]
  simp only [hf]
end

variable {R : Type} [CommSemiring R]

theorem unbroadcast_wf (g : NDArray R) (s : Shape) : (unbroadcast g s).WF := by
  unfold unbroadcast
  split_ifs
  · exact ofFn_wf _ _
  · exact ofFn_wf _ _

theorem unbroadcast_shape (g : NDArray R) (s : Shape) : (unbroadcast g s).shape = s := by
  unfold unbroadcast
  split_ifs <;> rfl

/-- "`sa` broadcasts to `s'`" is `List.Forall₂ BcOK (List.replicate m 1 ++ sa) s'` (as `broadcastShapes_inv` delivers it):
    `sa` is at most as long as `s'`, so `unbroadcast` takes its scatter-add branch, along the broadcast projection -/
theorem unbroadcast_of_bc {sa s' : Shape} {m : Nat} (h : List.Forall₂ BcOK (List.replicate m 1 ++ sa) s')
    (g : NDArray R) (hg : g.shape = s') : unbroadcast g sa = scatterAdd sa s' (bcastIdx sa) g := by
  subst hg
  refine if_neg ?_
  rw [← h.length_eq, List.length_append]
  exact Nat.not_lt.2 (Nat.le_add_left _ _)

/-- pairing against an un-broadcast array: the transpose of the scatter-add is the gather -/
theorem dot_unbroadcast_ofFn (sa s' : Shape) (m : Nat) (h : List.Forall₂ BcOK (List.replicate m 1 ++ sa) s')
    (v : NDArray R) (f : Idx → R) (hv : v.shape = sa) :
    dot v (unbroadcast (ofFn s' f) sa) = ((allIdx s').map (fun j => f j * v.get (bcastIdx sa j))).sum := by
  rw [unbroadcast_of_bc h _ rfl,
    ← gather_scatter_adjoint sa s' (bcastIdx sa) (fun j => bcastIdx_valid_pad sa m s' j h) v _ hv,
    dot_comm (gather s' (bcastIdx sa) v) (ofFn s' f) rfl, dot_ofFn]
  exact sum_allIdx_congr _ _ _ fun j hj => by rw [get_gather _ _ _ _ hj]

/-- forward = broadcast `v` and weight by `c`; backward = weight `g` by `c`, then `unbroadcast` -/
theorem bcast_adj (sa sy : Shape) (m : Nat) (h : List.Forall₂ BcOK (List.replicate m 1 ++ sa) sy) (c : Idx → R)
    (F B : NDArray R → Option (NDArray R))
    (hF : ∀ v : NDArray R, v.WF → v.shape = sa → ∃ y, F v = some y ∧ y.WF ∧ y.shape = sy ∧
      ∀ j, validIdx sy j → y.get j = v.get (bcastIdx sa j) * c j)
    (hB : ∀ g : NDArray R, g.WF → g.shape = sy → ∃ g' : NDArray R, g'.shape = sy ∧
      (∀ j, validIdx sy j → g'.get j = c j * g.get j) ∧ B g = some (unbroadcast g' sa)) :
    IsAdjoint sa sy F B := by
  refine isAdjoint_of_gather_spec sa sy (bcastIdx sa) c (fun j => bcastIdx_valid_pad sa m sy j h) F B hF
    fun g hg hgs => ?_
  obtain ⟨g', hg's, hg'g, hBg⟩ := hB g hg hgs
  refine ⟨_, hBg, unbroadcast_wf _ _, unbroadcast_shape _ _, fun i hi => ?_⟩
  rw [unbroadcast_of_bc h g' hg's, get_scatterAdd _ _ _ _ _ hi]
  exact congrArg List.sum
    (List.map_congr_left fun j hj => hg'g j ((mem_allIdx _ j).1 (List.mem_filter.1 hj).1))

end Proofs.Adjoint
