import Proofs.EngineStruct
import Mathlib.Algebra.BigOperators.Group.Finset.Lemmas
/-!
# Reverse mode is the transpose of forward mode: the chain rule on an arbitrary DAG

`backward_duality` is the statement that `Synap.Engine.backward` delivers, to every leaf that
requires grad, the derivative of the whole composed function (the sum over all paths): for every
assignment of tangents to the nodes that obeys the forward-mode recursion, the pairing of the
root tangent with the upstream gradient equals the sum over leaves of the pairing of the leaf
tangent with the gradient the leaf received in this call.

The proof is a potential argument (`sweep_pot`): along the sweep, the pairings of the tangents with the buffers of the nodes
still to be processed, plus those of the processed leaves, keep their sum, because the step of a non-leaf hands its own term
on to its operands (`pair_delta`: adjointness of `J` and the `grad_fn` contributions, and the forward-mode recursion).
-/
namespace Proofs.Engine
open Synap.Engine Finset

variable {G R : Type} [AddCommMonoid G] [AddCommMonoid R]

/-- contribution of node `v`'s `grad_fn` to operand position `k` for incoming gradient `γ`
    (0 when the closure has no `+=` for that operand) -/
def contrib (ns : Graph G) (v k : Nat) (γ : G) : G :=
  match ns[v]? with
  | some n =>
    match n.back with
    | some f => (((f γ).getD []).getD k none).getD 0
    | none => 0
  | none => 0

/-- current gradient buffer of node `v`, read as 0 when absent -/
def gradOf (ns : Graph G) (v : Nat) : G := ((ns[v]?).bind (·.grad)).getD 0

/-- the leaves that require grad among the nodes reachable from `root`, in post-order -/
def leavesOf (ns : Graph G) (root : Nat) : List Nat :=
  (traverse ns root).ordered.filter (fun v =>
    match ns[v]? with | some n => n.isLeaf && n.reqGrad | none => false)

theorem gradOf_congr {a b : Graph G} {v : Nat} (h : a[v]? = b[v]?) : gradOf a v = gradOf b v := by
  unfold gradOf; rw [h]

theorem gradOf_setGrad_ne (ns : Graph G) (i : Nat) (g : Option G) {v : Nat} (h : v ≠ i) :
    gradOf (setGrad ns i g) v = gradOf ns v :=
  gradOf_congr (getElem?_setGrad_ne ns i g v h)

theorem gradOf_setGrad_self (ns : Graph G) (i : Nat) (g : Option G) {n : Node G}
    (h : ns[i]? = some n) : gradOf (setGrad ns i g) i = g.getD 0 := by
  rw [gradOf, getElem?_setGrad_self, h]; rfl

theorem gradOf_of_grad {ns : Graph G} {v : Nat} {n : Node G} (h : ns[v]? = some n) :
    gradOf ns v = n.grad.getD 0 := by
  rw [gradOf, h]; rfl

def reqOf (ns0 : Graph G) (c : Nat) : Bool :=
  match ns0[c]? with | some n => n.reqGrad | none => false

/-- a leaf that requires grad (the filter of `leavesOf`) -/
def isLeafReq (ns0 : Graph G) (v : Nat) : Bool :=
  match ns0[v]? with | some n => n.isLeaf && n.reqGrad | none => false

omit [AddCommMonoid G] in
theorem isLeafReq_eq {ns0 : Graph G} {v : Nat} {n : Node G} (h : ns0[v]? = some n) :
    isLeafReq ns0 v = (n.isLeaf && n.reqGrad) := by
  simp [isLeafReq, h]

/-- what `accumulate` adds to the buffer of `w` -/
def accSum (ns0 : Graph G) (w : Nat) : List Nat → List (Option G) → G
  | c :: cs, g :: gs => (if c = w ∧ reqOf ns0 c = true then g.getD 0 else 0) + accSum ns0 w cs gs
  | [], _ => 0
  | _ :: _, [] => 0

omit [AddCommMonoid G] in
theorem reqOf_skel {ns0 ns : Graph G} (hs : Skel ns0 ns) {c : Nat} {n : Node G} (hc : ns[c]? = some n) :
    reqOf ns0 c = n.reqGrad := by
  obtain ⟨n0, h0, hst⟩ := hs.symm.get hc
  simp [reqOf, h0, reqGrad_of_strip hst]

theorem accumulate_spec (ns0 : Graph G) {ns : Graph G} {cs : List Nat} {gs : List (Option G)} {ns2 : Graph G}
    (hs : Skel ns0 ns) (h : accumulate ns cs gs = some ns2) (w : Nat) :
    gradOf ns2 w = gradOf ns w + accSum ns0 w cs gs := by
  fun_induction accumulate ns cs gs generalizing ns2 with
  | case1 ns c cs g gs n hc hr old hold ih =>
    rw [ih (hs.trans (skel_setGrad _ _ _)) h, accSum, reqOf_skel hs hc]
    by_cases e : c = w
    · subst e
      rw [gradOf_setGrad_self ns c _ hc, gradOf_of_grad hc, hold]
      simp [hr, add_assoc]
    · rw [gradOf_setGrad_ne ns c _ (Ne.symm e)]
      simp [e]
  | case2 => cases h
  | case3 ns c cs g gs n hc hr ih => rw [ih hs h, accSum, reqOf_skel hs hc]; simp [hr]
  | case4 => cases h
  | case5 ns c cs gs ih => rw [ih hs h, accSum]; simp
  | case6 cs ns gs h1 h2 =>
    cases h
    cases cs with
    | nil => simp [accSum]
    | cons c cs => cases gs with
      | nil => simp [accSum]
      | cons g gs => cases g with
        | none => exact (h2 _ _ _ rfl rfl).elim
        | some g => exact (h1 _ _ _ _ rfl rfl).elim

/-- what one step of `sweep` on node `v`, whose gradient is `γ`, adds to the buffer of `w` -/
def delta (ns0 : Graph G) (v : Nat) (γ : G) (w : Nat) : G :=
  match ns0[v]? with
  | some n =>
    match n.back with
    | some f => accSum ns0 w n.children ((f γ).getD [])
    | none => 0
  | none => 0

theorem delta_of_back_none (ns0 : Graph G) (v : Nat) (γ : G) (w : Nat) {n0 : Node G}
    (h : ns0[v]? = some n0) (hb : n0.back = none) : delta ns0 v γ w = 0 := by
  simp [delta, h, hb]

theorem back_gradOf (ns0 : Graph G) {ns : Graph G} {v : Nat} {n : Node G} {tr : List TrEv} {p : Graph G × List TrEv}
    (hs : Skel ns0 ns) (hv : ns[v]? = some n) (hb : backStep ns v n tr = some p) (w : Nat) :
    gradOf p.1 w = gradOf ns w + delta ns0 v (gradOf ns v) w := by
  obtain ⟨n0, h0, hst⟩ := hs.symm.get hv
  rcases backStep_inv hb with ⟨hf, rfl⟩ | ⟨f, γ, cl, ns2, hf, hγ, hcl, hacc, rfl⟩
  · rw [delta_of_back_none ns0 v _ w h0 (by rw [back_of_strip hst]; exact hf), add_zero]
  · rw [accumulate_spec ns0 hs hacc w, gradOf_of_grad hv, hγ]
    simp [delta, h0, back_of_strip hst, hf, hcl, children_of_strip hst]

theorem sweep_step (ns0 : Graph G) (hq : BackImpliesReq ns0) (root : Nat) (ra : Bool) (v : Nat) (rest : List Nat)
    (ns : Graph G) (tr : List TrEv) (res : Graph G × List TrEv) (hs : Skel ns0 ns)
    (h : sweep root ra (v :: rest) ns tr = some res) :
    ∃ ns3 tr3 n0, sweep root ra rest ns3 tr3 = some res ∧ Skel ns0 ns3 ∧ ns0[v]? = some n0 ∧
      (n0.isLeaf = true → ∀ w, gradOf ns3 w = gradOf ns w) ∧
      (∀ w, w ≠ v → gradOf ns3 w = gradOf ns w + delta ns0 v (gradOf ns v) w) := by
  simp only [sweep_cons, Option.bind_eq_some_iff] at h
  obtain ⟨n, hv, p, hb, h⟩ := h
  obtain ⟨n0, h0, hst⟩ := hs.symm.get hv
  refine ⟨_, _, n0, h, hs.trans (step_skel root ra hb), h0, fun hl w => ?_, fun w hw => ?_⟩
  · -- a leaf is not released, and by `hq` it has no `grad_fn`
    have : releaseCond root ra v n = false := by simp [releaseCond, ← isLeaf_of_strip hst, hl]
    rw [← add_zero (gradOf ns w), ← delta_of_back_none ns0 v (gradOf ns v) w h0 (hq.back_none h0 hl),
      ← back_gradOf ns0 hs hv hb w]
    unfold releaseStep; rw [this]; rfl
  · rw [← back_gradOf ns0 hs hv hb w]
    exact gradOf_congr (releaseStep_ne root ra v n p w hw)

/-- the rest of a sweep does not touch a node that is neither in the list nor an operand of a node
    in the list -/
theorem sweep_frame (ns0 : Graph G) (root : Nat) (ra : Bool) (x : Nat) :
    ∀ (l : List Nat) (ns : Graph G) (tr : List TrEv) (res : Graph G × List TrEv),
    DSkel ns0 ns → sweep root ra l ns tr = some res → x ∉ l →
    (∀ u ∈ l, ∀ n0, ns0[u]? = some n0 → x ∉ n0.children) → gradOf res.1 x = gradOf ns x := by
  intro l ns tr res hs h hx hc
  refine gradOf_congr (sweep_fixed root ra x l ns tr res.1 res.2 ?_ (fun h => absurd h hx) h)
  intro v hv hm
  obtain ⟨n, hn, hxn⟩ := mem_chOf.mp hm
  obtain ⟨n0, h0, e, _⟩ := hs v n hn
  exact hc v hv n0 h0 (e ▸ hxn)

theorem sum_map_single {M : Type} [AddCommMonoid M] {l : List Nat} (hnd : l.Nodup) {c : Nat} (hc : c ∈ l)
    (F : Nat → M) (h : ∀ w ∈ l, w ≠ c → F w = 0) : (l.map F).sum = F c := by
  rw [List.sum_map_eq_nsmul_single c F (fun w hw hm => h w hm hw), List.count_eq_one_of_mem hnd hc, one_nsmul]

/-- For each operand position `k` only `w = cs[k]` survives in the sum over `w` (`rest` has no duplicates); an operand that
    does not require grad receives nothing, and its functional is 0.  No condition on the length of `gs`: a missing slot reads as
    `none`, which is 0 on both sides. -/
theorem pair_accSum (ns0 : Graph G) (φ : Nat → G →+ R) {rest : List Nat} (hnd : rest.Nodup)
    (cs : List Nat) (gs : List (Option G)) (h1 : ∀ c ∈ cs, c ∈ rest)
    (h2 : ∀ c ∈ cs, reqOf ns0 c = false → φ c = 0) :
    (rest.map (fun w => φ w (accSum ns0 w cs gs))).sum
      = ∑ k ∈ range cs.length, φ (cs.getD k 0) ((gs.getD k none).getD 0) := by
  induction cs generalizing gs with
  | nil => simp only [accSum, map_zero, List.sum_map_zero, List.length_nil, Finset.sum_range_zero]
  | cons c cs ih =>
    cases gs with
    | nil => simp only [accSum, map_zero, List.sum_map_zero, List.getD_nil, Option.getD_none, Finset.sum_const_zero]
    | cons g gs =>
      simp only [accSum, map_add, List.length_cons]
      rw [List.sum_map_add, ih gs (fun c' hc' => h1 c' (List.mem_cons_of_mem _ hc'))
        (fun c' hc' => h2 c' (List.mem_cons_of_mem _ hc')), Finset.sum_range_succ', add_comm]
      refine congrArg₂ (· + ·) rfl ?_
      rw [sum_map_single hnd (h1 c List.mem_cons_self) _ (fun w _ hw => by rw [if_neg (fun h => hw h.1.symm), map_zero])]
      show φ c (if c = c ∧ reqOf ns0 c = true then g.getD 0 else 0) = φ c (g.getD 0)
      cases hr : reqOf ns0 c with
      | true => rw [if_pos ⟨rfl, rfl⟩]
      | false => rw [h2 c List.mem_cons_self hr, AddMonoidHom.zero_apply, AddMonoidHom.zero_apply]

/-- **The contributions of one non-leaf pair with the tangents like its own gradient does**: with `J v k` adjoint to what
    `v`'s `grad_fn` contributes to operand `k` (`hadj`) and tangents that obey the forward-mode recursion (`htan`). -/
theorem pair_delta (P : G →+ G →+ R) (ns0 : Graph G) (hw : WFG ns0) (J : Nat → Nat → G →+ G)
    (hadj : ∀ v k t γ, P (J v k t) γ = P t (contrib ns0 v k γ)) (tan : Nat → G)
    (htan0 : ∀ (v : Nat) (n : Node G), ns0[v]? = some n → n.reqGrad = false → tan v = 0)
    (htan : ∀ (v : Nat) (n : Node G), ns0[v]? = some n → n.isLeaf = false →
      tan v = ∑ k ∈ range n.children.length, J v k (tan (n.children.getD k 0)))
    (v : Nat) (n0 : Node G) (h0 : ns0[v]? = some n0) (hl : n0.isLeaf = false) (γ : G)
    (rest : List Nat) (hnd : rest.Nodup) (hc : ∀ c ∈ n0.children, c ∈ rest) :
    (rest.map (fun w => P (tan w) (delta ns0 v γ w))).sum = P (tan v) γ := by
  obtain ⟨f, hf⟩ := Option.isSome_iff_exists.mp (back_of_nonleaf hl)
  -- no totality of `f` is needed: where `f γ = none`, `delta` and `contrib` are 0 throughout
  have hd : ∀ w, delta ns0 v γ w = accSum ns0 w n0.children ((f γ).getD []) := by
    intro w; simp [delta, h0, hf]
  simp only [hd]
  rw [pair_accSum ns0 (fun w => P (tan w)) hnd n0.children _ hc ?_, htan v n0 h0 hl]
  · simp only [map_sum, AddMonoidHom.finsetSum_apply]
    apply Finset.sum_congr rfl
    intro k _
    rw [hadj]
    simp [contrib, h0, hf]
  · intro c hc' hr
    obtain ⟨m, hcc⟩ : ∃ m, ns0[c]? = some m :=
      ⟨_, List.getElem?_eq_getElem (Nat.lt_trans (hw v n0 h0 c hc') (lt_of_get h0))⟩
    rw [htan0 c m hcc (by simpa [reqOf, hcc] using hr), map_zero]

/-- **The potential argument** on the model's own sweep, for any family `φ` of additive functionals on the buffers that
    vanishes where no grad is required and is balanced at every non-leaf (`hbal`: what the step of `v` adds to the other
    buffers weighs as much as the gradient of `v` itself): over any parents-first list, the potential of the current buffers
    is the potential of the final buffers of the leaves (that require grad). -/
theorem sweep_pot (ns0 : Graph G) (hq : BackImpliesReq ns0) (φ : Nat → G →+ R)
    (hφ0 : ∀ (v : Nat) (n : Node G), ns0[v]? = some n → n.reqGrad = false → φ v = 0)
    (hbal : ∀ (v : Nat) (n : Node G), ns0[v]? = some n → n.isLeaf = false → ∀ (γ : G) (rest : List Nat), rest.Nodup →
      (∀ c ∈ n.children, c ∈ rest) → (rest.map (fun w => φ w (delta ns0 v γ w))).sum = φ v γ)
    (root : Nat) (ra : Bool) (l : List Nat) (ns : Graph G) (tr : List TrEv)
    (res : Graph G × List TrEv) (hs : Skel ns0 ns) (ht : Topo (chOf ns0) l) (h : sweep root ra l ns tr = some res) :
    (l.map (fun v => φ v (gradOf ns v))).sum
      = ((l.filter (isLeafReq ns0)).map (fun v => φ v (gradOf res.1 v))).sum := by
  induction l generalizing ns tr with
  | nil => simp
  | cons v rest ih =>
    obtain ⟨hv, hc, htl⟩ := ht
    obtain ⟨ns3, tr3, n0, h3, hs3, h0, hleaf, hg⟩ := sweep_step ns0 hq root ra v rest ns tr res hs h
    have ih := ih ns3 tr3 hs3 htl h3
    rw [List.map_cons, List.sum_cons]
    cases hl : n0.isLeaf with
    | true =>
      have hsame := hleaf hl
      have hfr : gradOf res.1 v = gradOf ns3 v :=
        sweep_frame ns0 root ra v rest ns3 tr3 res (DSkel.of_skel hs3) h3 hv
          (fun u hu n0 h0 hx => htl.not_child v hv u hu (mem_chOf.mpr ⟨n0, h0, hx⟩))
      rw [List.map_congr_left (fun w _ => congrArg (φ w) (hsame w).symm), ih]
      cases hr : n0.reqGrad with
      | true =>
        rw [List.filter_cons_of_pos (by rw [isLeafReq_eq h0, hl, hr]; rfl), List.map_cons, List.sum_cons, hfr, hsame]
      | false =>
        rw [List.filter_cons_of_neg (by rw [isLeafReq_eq h0, hl, hr]; decide), hφ0 v n0 h0 hr,
          AddMonoidHom.zero_apply, zero_add]
    | false =>
      -- every buffer still in the list grows by `delta`, and `hbal` collects the growth into `φ v` of the gradient of `v`
      rw [List.filter_cons_of_neg (by simp [isLeafReq_eq h0, hl]), ← ih,
        List.map_congr_left (fun w hw' => (congrArg (φ w) (hg w (fun e => hv (e ▸ hw')))).trans (map_add _ _ _)),
        List.sum_map_add, hbal v n0 h0 hl _ rest htl.nodup (fun c hc' => hc c (mem_chOf.mpr ⟨n0, h0, hc'⟩)), add_comm]

/-- **Two sweeps in lockstep** over the same parents-first list: while the non-leaves still to be processed hold the same
    gradients in both graphs, every step adds the same `delta` in both, so every leaf is shifted by the same amount (without
    subtraction: relative to reference values `ga`, `gb`). -/
theorem sweep_rel (a0 : Graph G) (hq : BackImpliesReq a0) (root : Nat) (ra : Bool) (ga gb : Nat → G)
    (l : List Nat) (A B : Graph G) (trA trB : List TrEv) (resA resB : Graph G × List TrEv)
    (hsA : Skel a0 A) (hsB : Skel a0 B) (ht : Topo (chOf a0) l)
    (hA : sweep root ra l A trA = some resA) (hB : sweep root ra l B trB = some resB)
    (h1 : ∀ w ∈ l, ∀ n0, a0[w]? = some n0 → n0.isLeaf = false → gradOf A w = gradOf B w)
    (h2 : ∀ w n0, a0[w]? = some n0 → n0.isLeaf = true → gradOf A w + gb w = gradOf B w + ga w) :
    ∀ w n0, a0[w]? = some n0 → n0.isLeaf = true → gradOf resA.1 w + gb w = gradOf resB.1 w + ga w := by
  induction l generalizing A B trA trB with
  | nil =>
    rw [sweep_nil, Option.some.injEq] at hA hB
    subst hA; subst hB; exact h2
  | cons v rest ih =>
    obtain ⟨hv, -, htl⟩ := ht
    obtain ⟨A3, trA3, n0, hA3, hsA3, h0, hlA, hgA⟩ := sweep_step a0 hq root ra v rest A trA resA hsA hA
    obtain ⟨B3, trB3, n0', hB3, hsB3, h0', hlB, hgB⟩ := sweep_step a0 hq root ra v rest B trB resB hsB hB
    rw [h0] at h0'; cases h0'
    have ih := ih A3 B3 trA3 trB3 hsA3 hsB3 htl hA3 hB3
    cases hl : n0.isLeaf with
    | true =>
      refine ih (fun w hw m0 hm0 hml => ?_) (fun w m0 hm0 hml => ?_)
      · rw [hlA hl w, hlB hl w]; exact h1 w (List.mem_cons_of_mem _ hw) m0 hm0 hml
      · rw [hlA hl w, hlB hl w]; exact h2 w m0 hm0 hml
    | false =>
      have e := h1 v List.mem_cons_self n0 h0 hl
      refine ih (fun w hw m0 hm0 hml => ?_) (fun w m0 hm0 hml => ?_)
      · have hne : w ≠ v := fun e => hv (e ▸ hw)
        rw [hgA w hne, hgB w hne, h1 w (List.mem_cons_of_mem _ hw) m0 hm0 hml, e]
      · have hne : w ≠ v := by
          rintro rfl
          rw [hm0] at h0; cases h0
          simp [hl] at hml
        rw [hgA w hne, hgB w hne, e, add_right_comm, h2 w m0 hm0 hml, add_right_comm]

theorem rootVal_eq (s : DfsSt G) (root : Nat) (g : G) {r' : Node G} (hr : s.ns[root]? = some r') :
    rootVal s root g = if r'.isLeaf = true then gradOf s.ns root + g else g := by
  unfold rootVal
  simp only [hr, gradOf_of_grad hr]
  cases r'.isLeaf <;> cases r'.grad <;> simp

omit [AddCommMonoid G] in
theorem leavesOf_eq (ns : Graph G) (root : Nat) :
    leavesOf ns root = (traverse ns root).ordered.filter (isLeafReq ns) := rfl

/-- the graph `start` (= `ns1`) from which a successful `backward` sweeps: on leaves and on reachable nodes its buffers read
    as the initial buffer of a leaf, 0 on a non-leaf (freshly zeroed; `hz`: `zero` is the 0 of `G`), plus `g` at the root -/
theorem backward_start {ns : Graph G} (hw : WFG ns) (hz : ∀ (v : Nat) (n : Node G), ns[v]? = some n → n.zero = 0)
    {root : Nat} {g : G} {ra : Bool} {res : Graph G × List TrEv} (h : backward ns root g ra = some res) :
    ∃ r start, ns[root]? = some r ∧ TravFacts ns root ∧ Skel ns start ∧
      sweep root ra (traverse ns root).ordered.reverse start (traverse ns root).trace = some res ∧
      ∀ v n, ns[v]? = some n → (n.isLeaf = true ∨ Reach ns root v) →
        gradOf start v = (if n.isLeaf = true then gradOf ns v else 0) + (if v = root then g else 0) := by
  obtain ⟨r, hroot, -, h⟩ := backward_inv h
  have F := travFacts ns hw root (lt_of_get hroot)
  have hr' := (traverse_root ns hw root (lt_of_get hroot)).trans hroot
  refine ⟨r, ns1 ns root g, hroot, F, ns1_skel ns root g, h, ?_⟩
  intro v n hn hx
  obtain ⟨n1, hn1, -⟩ := F.skel.get hn
  have gi := F.gi v n n1 hn hn1
  have htl : n.isLeaf = true → gradOf (traverse ns root).ns v = gradOf ns v := by
    intro hl
    rw [gradOf_of_grad hn1, gradOf_of_grad hn]
    by_cases hX : (v ∈ (traverse ns root).visited ∧ v ≠ root) ∧ n.reqGrad = true
    · rw [gi.1 hX, expG, if_pos hl, hz v n hn]; rfl
    · rw [gi.2 hX]
  by_cases hvr : v = root
  · subst hvr
    rw [hroot] at hn; cases hn
    unfold ns1
    rw [gradOf_setGrad_self _ _ _ hr', rootVal_eq _ v g hr']
    cases hl : r.isLeaf with
    | true => simp [htl hl]
    | false => simp
  · rw [show gradOf (ns1 ns root g) v = _ from gradOf_setGrad_ne _ _ _ hvr, if_neg hvr, add_zero]
    cases hl : n.isLeaf with
    | true => simp [htl hl]
    | false =>
      have hv := (F.mem_vis v).mpr (hx.resolve_left (by simp [hl]))
      rw [gradOf_of_grad hn1, gi.1 ⟨⟨hv, hvr⟩, reqGrad_of_nonleaf hl⟩, expG, hl, hz v n hn]; rfl

/-- **Chain rule on any DAG.**  `P` is a bi-additive pairing, `J v k` the forward tangent map of
    node `v` in operand position `k`, adjoint to the backward contribution.  Any fan-out, fan-in,
    repeated operands, mixed requires-grad operands, multi-output ops (several nodes sharing an
    operand). -/
theorem backward_duality (P : G →+ G →+ R) (ns : Graph G) (hw : WFG ns)
    (hb : BacksTotal ns) (hq : BackImpliesReq ns)
    (hz : ∀ (v : Nat) (n : Node G), ns[v]? = some n → n.zero = 0)
    (J : Nat → Nat → G →+ G)
    (hadj : ∀ v k t γ, P (J v k t) γ = P t (contrib ns v k γ))
    (tan : Nat → G)
    (htan0 : ∀ (v : Nat) (n : Node G), ns[v]? = some n → n.reqGrad = false → tan v = 0)
    (htan : ∀ (v : Nat) (n : Node G), ns[v]? = some n → n.isLeaf = false →
      tan v = ∑ k ∈ range n.children.length, J v k (tan (n.children.getD k 0)))
    (root : Nat) (g : G) (retainAll : Bool) (ns' : Graph G) (tr : List TrEv)
    (h : backward ns root g retainAll = some (ns', tr)) :
    ((leavesOf ns root).map (fun l => P (tan l) (gradOf ns' l))).sum
      = ((leavesOf ns root).map (fun l => P (tan l) (gradOf ns l))).sum + P (tan root) g := by
  obtain ⟨r, start, hroot, F, hsk, hfin, hstart⟩ := backward_start hw hz h
  -- the functional of node `v` is the pairing with its tangent
  have hpot := sweep_pot ns hq (fun v => P (tan v)) (fun v n hn hr => by rw [htan0 v n hn hr, map_zero])
    (pair_delta P ns hw J hadj tan htan0 htan) root retainAll _ _ _ _ hsk F.topo hfin
  rw [List.filter_reverse, List.map_reverse, List.map_reverse, List.sum_reverse, List.sum_reverse] at hpot
  rw [leavesOf_eq, ← hpot]
  -- the potential at the start of the sweep
  have hpt : ∀ v ∈ (traverse ns root).ordered, P (tan v) (gradOf start v)
      = (if isLeafReq ns v = true then P (tan v) (gradOf ns v) else 0)
        + (if v = root then P (tan root) g else 0) := by
    intro v hv
    have hre : Reach ns root v := (F.mem_ord v).mp hv
    obtain ⟨n, hn⟩ : ∃ n, ns[v]? = some n :=
      ⟨_, List.getElem?_eq_getElem (Nat.lt_of_le_of_lt (hre.le hw) (lt_of_get hroot))⟩
    rw [hstart v n hn (Or.inr hre), map_add, isLeafReq_eq hn]
    refine congrArg₂ (· + ·) ?_ ?_
    · cases hl : n.isLeaf with
      | false => simp
      | true =>
        cases hq' : n.reqGrad with
        | true => simp
        | false => simp [htan0 v n hn hq']
    · split
      · rename_i e; rw [e]
      · exact map_zero _
  have hleaf : ((traverse ns root).ordered.map
        (fun v => if isLeafReq ns v = true then P (tan v) (gradOf ns v) else 0)).sum
      = (((traverse ns root).ordered.filter (isLeafReq ns)).map (fun l => P (tan l) (gradOf ns l))).sum := by
    rw [List.sum_map_ite, List.sum_map_zero, add_zero]
    simp only [Bool.decide_eq_true]
  rw [List.map_congr_left hpt, List.sum_map_add, hleaf,
    sum_map_single F.nodup F.root_mem _ (fun w _ hw' => if_neg hw'), if_pos rfl]

/-- On two graphs that agree up to the buffers of non-leaves (`AgreeUpToNonLeafGrads`: leaf buffers are equal) the same call
    leaves the same gradient on every reachable leaf that requires grad; `P` plays no part.  The statement for graphs whose
    leaf buffers differ is `Props.C04.leaf_gradients_accumulate`. -/
theorem backward_leaf_increment_independent (P : G →+ G →+ R) (a b : Graph G) (hw : WFG a)
    (hab : AgreeUpToNonLeafGrads a b) (root : Nat) (g : G) (retainAll : Bool)
    (a' b' : Graph G) (ta tb : List TrEv)
    (ha : backward a root g retainAll = some (a', ta)) (hb' : backward b root g retainAll = some (b', tb))
    (l : Nat) (hl : l ∈ leavesOf a root) : gradOf a' l = gradOf b' l := by
  obtain ⟨r, hroot, -⟩ := backward_inv ha
  have hrl := lt_of_get hroot
  have F := travFacts a hw root hrl
  have hre : Reach a root l := (F.mem_ord l).mp (List.mem_filter.mp hl).1
  have hll : l < a.length := Nat.lt_of_le_of_lt (hre.le hw) hrl
  have hwb : WFG b := hw.of_skel (skel_of_sameSkeleton hab.1)
  obtain ⟨n, hn, -⟩ := (backward_frame a hw root g retainAll a' ta ha).1.2 l a[l]
    (List.getElem?_eq_getElem hll)
  have hlb : l < b.length := by rw [hab.1.1]; exact hll
  obtain ⟨m, hm, -⟩ := (backward_frame b hwb root g retainAll b' tb hb').1.2 l b[l]
    (List.getElem?_eq_getElem hlb)
  have hmn := ((no_leftover_leak a b hw hab root g retainAll).2 a' ta b' tb ha hb').2 l n m hn hm
    (Or.inl hre)
  rw [gradOf_of_grad hn, gradOf_of_grad hm, hmn]

/-- two graphs with the same skeleton (their gradient buffers may differ anywhere) -/
def SameSkel (a b : Graph G) : Prop := SameSkeleton a b

end Proofs.Engine
