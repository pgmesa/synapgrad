import SynapModel.ModuleFwd
import Props.C12
/-!
# `Sequential` = composition of its members, `Neuron` = `Linear` with one output (C14)
-/
namespace Proofs.FusedMod
open Synap Synap.Modules Synap.ModuleFwd Synap.Kernels

variable {σ τ : Type}

/-- one member call in the Kleisli category of `Option` (state threaded) -/
def step (call : Nat → σ → τ → Option (σ × τ)) (acc : σ × τ) (k : Nat) : Option (σ × τ) := call k acc.1 acc.2

/-- left fold of the members' forwards, first registered first, each fed the previous output -/
def composeCalls (call : Nat → σ → τ → Option (σ × τ)) (ks : List Nat) (st : σ) (x : τ) : Option (σ × τ) :=
  ks.foldlM (step call) (st, x)

/-- the loop body of `sequentialForward` (there an anonymous function), so that `sequentialForward call w m st x` unfolds to
    `((applyOrder w m).foldl (body call) (some (st, x, x))).map (fun r => (r.1, r.2.2))` -/
def body (call : Nat → σ → τ → Option (σ × τ)) (acc : Option (σ × τ × τ)) (k : Nat) : Option (σ × τ × τ) :=
  match acc with
  | none => none
  | some (st, inp, _) =>
    match call k st inp with
    | none => none
    | some (st', out) => some (st', out, out)

theorem loop_none (call : Nat → σ → τ → Option (σ × τ)) (ks : List Nat) : ks.foldl (body call) none = none := by
  induction ks with
  | nil => rfl
  | cons k ks ih => exact ih

theorem loop_eq (call : Nat → σ → τ → Option (σ × τ)) (ks : List Nat) : ∀ (st : σ) (t : τ),
    (ks.foldl (body call) (some (st, t, t))).map (fun r => (r.1, r.2.2)) = ks.foldlM (step call) (st, t) := by
  induction ks with
  | nil => intro st t; rfl
  | cons k ks ih =>
    intro st t
    show (List.foldl (body call) (match call k st t with | none => none | some (st', out) => some (st', out, out)) ks).map _
      = (call k st t).bind _
    cases call k st t with
    | none => rw [loop_none]; rfl
    | some r => exact ih r.1 r.2

theorem sequentialForward_eq_fold (call : Nat → σ → τ → Option (σ × τ)) (w : World) (m : Nat) (st : σ) (x : τ) :
    sequentialForward call w m st x = composeCalls call (applyOrder w m) st x :=
  loop_eq call (applyOrder w m) st x

/-- **Sequential = composition of its modules**, in registration (argument) order: for every list of module ids, repeated
    ids included, every stateful / failing member behaviour `call`, and every world it is built in
    (`Props.C14.sequential_is_composition`) -/
theorem sequential_is_composition (call : Nat → σ → τ → Option (σ × τ)) (w : World) (ks : List Nat) (st : σ) (x : τ) :
    sequentialForward call (sequential w ks).1 (sequential w ks).2 st x = composeCalls call ks st x := by
  rw [sequentialForward_eq_fold, Props.C12.sequential_order]

/-- **Sequential(OrderedDict) = composition of the dictionary's values in insertion order** (distinct keys, as in
    an `OrderedDict`) -/
theorem sequentialDict_is_composition (call : Nat → σ → τ → Option (σ × τ)) (w : World) (ks : List (String × Nat))
    (hk : (ks.map (·.1)).Nodup) (st : σ) (x : τ) :
    sequentialForward call (sequentialDict w ks).1 (sequentialDict w ks).2 st x = composeCalls call (ks.map (·.2)) st x := by
  rw [sequentialForward_eq_fold, Props.C12.sequentialDict_order w ks hk]

example : (([("a", 0), ("b", 1), ("c", 0)] : List (String × Nat)).map (·.1)).Nodup := by decide

variable {α : Type} [Zero α] [Add α] [Mul α]

/-- **Neuron = Linear with one output**: the same object as `Linear(in_features, 1, bias)`, so its weight has
    shape `(1, in_features)`, its bias shape `(1,)`, and its forward is `F.linear(x, weight, bias)` behind the same
    `in_features` assertion; there is no activation. -/
theorem neuron_is_linear (inF : Nat) (bias : Bool) (wv bv : List α) (x : NDArray α) :
    Neuron.init inF bias wv bv = Linear.init inF 1 bias wv bv ∧
    (Neuron.init inF bias wv bv).weight.shape = [1, inF] ∧
    (Neuron.init inF bias wv bv).bias.map (·.shape) = (if bias then some [1] else none) ∧
    Neuron.forward (Neuron.init inF bias wv bv) x = Linear.forward (Linear.init inF 1 bias wv bv) x ∧
    (x.shape[1]? = some inF →
      Neuron.forward (Neuron.init inF bias wv bv) x =
        linearForward x ⟨[1, inF], wv⟩ (if bias then some ⟨[1], bv⟩ else none)) ∧
    (x.shape[1]? ≠ some inF → Neuron.forward (Neuron.init inF bias wv bv) x = none) := by
  refine ⟨rfl, rfl, by cases bias <;> rfl, rfl, fun h => ?_, fun h => ?_⟩
  · simp [Neuron.forward, Linear.forward, h, Neuron.init, Linear.init]
  · unfold Neuron.forward Linear.forward
    cases hx : x.shape[1]? with
    | none => rfl
    | some d =>
      have : d ≠ inF := fun e => h (by rw [hx, e])
      simp [Neuron.init, Linear.init, this]

example : (⟨[2, 3], [1, 2, 3, 4, 5, 6]⟩ : NDArray Int).shape[1]? = some 3 := by decide

end Proofs.FusedMod
