import Proofs.AdjointConcat
import Proofs.AdjointExpand
import Proofs.ConvToolsLemmas
import SynapModel.LayerArgs
/-!
# Helper lemmas for C06 (nn forward specifications) and C14 (fused ops = compositions)

* window count: `convOut_eq_some_iff` (closed form of `convOut`), `convOut_same`, `conv2dArgs_same_eq` (`padding='same'`);
* `stack` is `concatenate` of the operands with one axis of size 1 inserted (`stack_is_concat_expand`).
-/
namespace Proofs.SpecNN
open Synap.Kernels

/-- **`convOut` in closed form**: a window count exists exactly when kernel, stride and dilation are
    positive and one dilated window (`d·(k−1)+1` cells) fits into the padded length `L + 2p`; it is
    then `⌊(L + 2p − d(k−1) − 1)/s⌋ + 1`. -/
theorem convOut_eq_some_iff (L k s p d n : Nat) :
    convOut L k s p d = some n ↔
      0 < k ∧ 0 < s ∧ 0 < d ∧ d * (k - 1) + 1 ≤ L + 2 * p ∧ n = (L + 2 * p - d * (k - 1) - 1) / s + 1 := by
  unfold convOut
  split_ifs with h0 h1 <;> simp only [Option.some.injEq, false_iff] <;> omega

example : convOut 5 3 2 1 1 = some 3 := by decide

open Synap Synap.Np Proofs.Core Proofs.Adjoint

theorem convOut_same (L k d : Nat) (hk : 0 < k) (hd : 0 < d) (hL : 0 < L) (he : (d * (k - 1)) % 2 = 0) :
    convOut L k 1 (d * (k - 1) / 2) d = some L := by
  rw [Proofs.SpecNN.convOut_eq_some_iff, Nat.div_one, Nat.mul_div_cancel' (Nat.dvd_of_mod_eq_zero he)]
  exact ⟨hk, Nat.one_pos, hd, by omega, by omega⟩

open Synap.LayerArgs in
theorem conv2dArgs_same_eq (k d : IT) :
    conv2dArgs k (.int 1) .same d =
      if (d.bc.1 * (k.bc.1 - 1)) % 2 ≠ 0 ∨ (d.bc.2 * (k.bc.2 - 1)) % 2 ≠ 0 then none
      else some ⟨k.bc, (1, 1), ((d.bc.1 * (k.bc.1 - 1)) / 2, (d.bc.2 * (k.bc.2 - 1)) / 2), d.bc⟩ := by
  unfold conv2dArgs
  exact if_neg (not_not.2 rfl)

section
variable {α : Type} [Zero α]

theorem mapM_eq_map {β γ : Type} (f : β → Option γ) (g : β → γ) (l : List β)
    (h : ∀ x ∈ l, f x = some (g x)) : l.mapM f = some (l.map g) := by
  induction l with
  | nil => rfl
  | cons x l ih =>
    rw [List.mapM_cons, h x List.mem_cons_self, ih fun y hy => h y (List.mem_cons_of_mem _ hy)]
    rfl

theorem concatenate_find_ones (a0 : Nat) (j : Idx) (t : Nat) (us : List (NDArray α)) (off : Nat)
    (h : ∀ u ∈ us, u.shape.getD a0 0 = 1) (hoff : off ≤ t) :
    concatenate.find a0 j t us off = (us[t - off]?.map fun u => u.get (j.modify a0 fun _ => 0)).getD 0 := by
  induction us generalizing off with
  | nil => rfl
  | cons u r ih =>
    rw [concatenate.find, h u List.mem_cons_self]
    -- the head operand occupies exactly the coordinate `off`
    obtain rfl | hlt := Nat.eq_or_lt_of_le hoff
    · rw [if_pos (Nat.lt_succ_self _), Nat.sub_self, ← zipIdx_map_modify]
      rfl
    · rw [if_neg (Nat.not_lt.2 hlt), ih (off + 1) (fun v hv => h v (List.mem_cons_of_mem _ hv)) hlt,
        ← Nat.sub_sub, ← List.getElem?_cons_succ (a := u), Nat.sub_add_cancel (Nat.le_sub_of_add_le' hlt)]

theorem stack_is_concat_expand (xs : List (NDArray α)) (axis : Int) (y : NDArray α)
    (h : stack xs axis = some y) :
    ∃ us, xs.mapM (fun x => expandDims x [axis]) = some us ∧ concatenate us axis = some y := by
  obtain ⟨s0, a0, hne, hall, hn, _⟩ := stack_inv xs axis y h
  have ha0 : a0 ≤ s0.length := Nat.le_of_lt_succ (SpecOps.normAxis_lt hn)
  rw [stack_some xs axis s0 a0 xs.length hne hall hn rfl] at h
  have hy := (Option.some.inj h).symm
  refine ⟨xs.map (fun x => reshapeTo x (insertAt s0 a0 1)), ?_, ?_⟩
  · apply mapM_eq_map
    intro x hx
    have := expandDims_single x axis a0 (by rw [hall x hx]; exact hn)
    rw [this, hall x hx]
  · -- every operand of the concatenation has shape `insertAt s0 a0 1`, so size 1 along the axis
    have hone : ∀ u ∈ xs.map (fun x => reshapeTo x (insertAt s0 a0 1)), u.shape.getD a0 0 = 1 :=
      List.forall_mem_map.2 fun x _ => getD_insertAt _ _ _ _ ha0
    have hsum : ((xs.map (fun x => reshapeTo x (insertAt s0 a0 1))).map (fun u => u.shape.getD a0 0)).sum
        = xs.length := by
      rw [List.map_congr_left hone, List.map_const', List.sum_replicate_nat, List.length_map, Nat.mul_one]
    rw [concat_some _ axis s0 a0 xs.length (by simpa using hne) ha0 hn
      (List.forall_mem_map.2 fun x _ => congrArg (insertAt s0 a0) (getD_insertAt s0 a0 1 0 ha0).symm) hsum, hy]
    refine congrArg some (Proofs.ConvTools.ofFn_congr _ _ _ fun j hj => ?_)
    obtain ⟨q, t, rfl, hq, ht⟩ := (validIdx_insertAt_iff s0 a0 xs.length ha0 j).1 hj
    have hql : a0 ≤ q.length := by rw [validIdx_length _ _ hq]; exact ha0
    simp only [getI, getD_insertAt _ _ _ _ hql]
    rw [concatenate_find_ones a0 _ t _ 0 hone (Nat.zero_le _), Nat.sub_zero, List.getElem?_map, List.getElem?_eq_getElem ht,
      Option.map_some, Option.map_some, Option.getD_some, modify_insertAt _ _ _ _ hql, dropAxes_single,
      eraseIdx_insertAt _ _ _ hql]
    obtain rfl : xs[t].shape = s0 := hall _ (List.getElem_mem ht)
    exact get_reshapeTo_insertAt_one xs[t] a0 q ha0 hq

end

end Proofs.SpecNN
