import Proofs.AdjointSum
import SynapModel.Kernels.NN
import Mathlib.Algebra.Order.Field.Basic
/-!
# max / min / max-pooling: the backward kernel is a valid subgradient (C01 / C02)

Where a maximum is attained at several positions the function is not differentiable; the property
accepts any valid subgradient.  The theorems say: the kernel routes the upstream gradient of every
output element to exactly one position of its fibre / window, that position attains the extremum,
and nothing else receives anything (the statements for `max` / `min` are in `Props/C01.lean`, section `MaxMin`).

Everything about the kernels is proved once, for a comparison `better` that negates a total transitive relation.
-/
namespace Proofs.Subgrad
open Synap Synap.NDArray Synap.Np Synap.Kernels Proofs.Core Proofs.Adjoint

theorem foldl_best_spec {ι β : Type} (R : β → β → Prop) (htot : ∀ x y, R x y ∨ R y x)
    (htrans : ∀ x y z, R x y → R y z → R x z) (better : β → β → Bool)
    (hb : ∀ x y, better x y = true ↔ ¬ R x y) (f : ι → β) (r : List ι) (i0 : ι) :
    (r.foldl (fun best i => if better (f i) (f best) then i else best) i0) ∈ i0 :: r ∧
    ∀ i ∈ i0 :: r, R (f i) (f (r.foldl (fun best i => if better (f i) (f best) then i else best) i0)) := by
  have hrefl : ∀ x, R x x := fun x => (htot x x).elim id id
  induction r generalizing i0 with
  | nil => simpa using hrefl _
  | cons i r ih =>
    rw [List.foldl_cons]
    obtain ⟨h1, h2⟩ := ih (if better (f i) (f i0) then i else i0)
    generalize hi1 : (if better (f i) (f i0) = true then i else i0) = i1 at h1 h2
    -- the new start `i1` is `i` or `i0` and dominates both
    have h01 : i1 ∈ [i0, i] ∧ R (f i0) (f i1) ∧ R (f i) (f i1) := by
      subst hi1
      split_ifs with hbt
      · exact ⟨.tail _ (.head _), (htot _ _).resolve_left ((hb _ _).1 hbt), hrefl _⟩
      · exact ⟨.head _, hrefl _, not_not.1 (mt (hb _ _).2 hbt)⟩
    have hj := h2 i1 List.mem_cons_self
    refine ⟨?_, List.forall_mem_cons.2 ⟨htrans _ _ _ h01.2.1 hj, List.forall_mem_cons.2
      ⟨htrans _ _ _ h01.2.2 hj, fun i' hi' => h2 i' (List.mem_cons_of_mem _ hi')⟩⟩⟩
    rcases List.mem_cons.1 h1 with e | e
    · rw [e]
      exact List.mem_append_left r h01.1
    · exact List.mem_cons_of_mem _ (List.mem_cons_of_mem _ e)

def setAxesFrom {α : Type} (m : Nat) (l : List α) (ax : List Nat) (v : α) : List α :=
  (l.zipIdx m).map (fun (x, k) => if ax.contains k then v else x)

theorem setAxes_eq {α : Type} (l : List α) (ax : List Nat) (v : α) : setAxes l ax v = setAxesFrom 0 l ax v := rfl

theorem size_maskFrom_one (ax : List Nat) (s : Shape) (m : Nat) :
    Shape.size (maskFrom 1 m ax true s) = Shape.size (maskFrom 1 m ax false s) := by
  induction s generalizing m with
  | nil => rfl
  | cons n s ih =>
    rw [maskFrom_cons, maskFrom_cons]
    by_cases hm : m ∈ ax
    · rw [if_pos hm, if_pos hm, if_pos rfl, if_neg Bool.false_ne_true, size_cons, ih, Nat.one_mul]
    · rw [if_neg hm, if_neg hm, size_cons, size_cons, ih]

theorem ravel_maskFrom (ax : List Nat) (s : Shape) (i : Idx) (m : Nat) (h : validIdx s i) :
    ravel (maskFrom 1 m ax true s) (maskFrom 0 m ax true i) = ravel (maskFrom 1 m ax false s) (maskFrom 0 m ax false i) := by
  rw [validIdx_iff_forall₂] at h
  induction h generalizing m with
  | nil => rfl
  | cons _ _ ih =>
    simp only [maskFrom_cons]
    by_cases hm : m ∈ ax
    · simp only [if_pos hm, if_true, Bool.false_eq_true, if_false, ravel, ih, Nat.zero_mul, Nat.zero_add]
    · simp only [if_neg hm, ravel, ih, size_maskFrom_one]

theorem ravel_reduce_keep_eq (s : Shape) (axes : List Nat) (i : Idx) (h : validIdx s i) :
    ravel (reduceShape s axes true) (reduceIdx axes true i) =
      ravel (reduceShape s axes false) (reduceIdx axes false i) := by
  simp only [reduceShape_eq_maskFrom, reduceIdx_eq_maskFrom]
  exact ravel_maskFrom axes s i 0 h

theorem setAxes_range_zero (i : Idx) : setAxes i (List.range i.length) 0 = List.replicate i.length 0 := by
  apply List.ext_getElem
  · simp [setAxes]
  · intro k h1 h2
    simp only [setAxes, List.length_map, List.length_zipIdx] at h1
    simp [setAxes, h1]

theorem length_setAxes {α : Type} (l : List α) (ax : List Nat) (v : α) : (setAxes l ax v).length = l.length := by
  rw [setAxes, List.length_map, List.length_zipIdx]

section Ext
variable {α : Type} [Zero α]

theorem extForward_inv (better : α → α → Bool) (a y : NDArray α) (dim : Option Int) (keep : Bool)
    (h : extForward better a dim keep = some y) (axes : List Nat)
    (hax : (match dim with | none => Axes.all | some d => Axes.one d).normRed a.shape.length = some axes) :
    (∀ k ∈ axes, a.shape.getD k 0 ≠ 0) ∧
    y = ofFn (reduceShape a.shape axes keep) (fun o => a.get (argExt better a axes keep o)) := by
  rw [extForward_eq] at h
  obtain ⟨axes', hax', h⟩ := Option.bind_eq_some_iff.1 h
  obtain rfl : axes' = axes := Option.some.inj (hax'.symm.trans hax)
  obtain ⟨hc, h⟩ := Option.ite_none_left_eq_some.1 h
  rw [Bool.or_eq_true, not_or] at hc
  exact ⟨fun k hk h0 => hc.1 (List.any_eq_true.2 ⟨k, hk, by rw [h0]; rfl⟩), (Option.some.inj h).symm⟩

theorem extForward_axes (better : α → α → Bool) (a y : NDArray α) (dim : Option Int)
    (keep : Bool) (h : extForward better a dim keep = some y) :
    ∃ axes, (match dim with | none => Axes.all | some d => Axes.one d).normRed a.shape.length = some axes := by
  rw [extForward_eq] at h
  exact (Option.bind_eq_some_iff.1 h).imp fun _ h => h.1

theorem argExt_spec (R : α → α → Prop) (htot : ∀ x y, R x y ∨ R y x)
    (htrans : ∀ x y z, R x y → R y z → R x z) (better : α → α → Bool)
    (hb : ∀ x y, better x y = true ↔ ¬ R x y)
    (a y : NDArray α) (dim : Option Int) (keep : Bool)
    (h : extForward better a dim keep = some y) (axes : List Nat)
    (hax : (match dim with | none => Axes.all | some d => Axes.one d).normRed a.shape.length = some axes)
    (o : Idx) (ho : validIdx y.shape o) :
    validIdx a.shape (argExt better a axes keep o) ∧ reduceIdx axes keep (argExt better a axes keep o) = o ∧
    y.get o = a.get (argExt better a axes keep o) ∧
    ∀ i, validIdx a.shape i → reduceIdx axes keep i = o → R (a.get i) (a.get (argExt better a axes keep o)) := by
  obtain ⟨hpos, rfl⟩ := extForward_inv better a y dim keep h axes hax
  rw [ofFn_shape] at ho
  rw [get_ofFn _ _ _ ho]
  have hmem : ∀ i, i ∈ (allIdx a.shape).filter (fun i => reduceIdx axes keep i == o) ↔
      validIdx a.shape i ∧ reduceIdx axes keep i = o := by
    intro i
    rw [List.mem_filter, mem_allIdx, beq_iff_eq]
  unfold argExt
  cases hf : (allIdx a.shape).filter (fun i => reduceIdx axes keep i == o) with
  | nil => exact absurd hf (fibre_ne_nil a.shape axes keep hpos o ho)
  | cons j0 r =>
    simp only []
    obtain ⟨h1, h2⟩ := foldl_best_spec R htot htrans better hb a.get r j0
    rw [← hf] at h1 h2
    have hj := (hmem _).1 h1
    exact ⟨hj.1, hj.2, trivial, fun i hi he => h2 i ((hmem i).2 ⟨hi, he⟩)⟩

/-- however the kernel reads the upstream gradient (`dim = None`: at `[0, …, 0]`; `keepdims`: as it is; otherwise
    reshaped to the keepdims shape, at the keepdims index), it reads `g[reduceIdx i]` -/
theorem extBackward_read (g a : NDArray α) (dim : Option Int) (keep : Bool) (axes : List Nat)
    (hax : (match dim with | none => Axes.all | some d => Axes.one d).normRed a.shape.length = some axes)
    (hgs : g.shape = reduceShape a.shape axes keep) (i : Idx) (hi : validIdx a.shape i) :
    (if dim.isNone then g.get (List.replicate g.shape.length 0)
      else (if keep then g else reshapeTo g (reduceShape a.shape axes true)).get (reduceIdx axes true i))
      = g.get (reduceIdx axes keep i) := by
  have hlen := validIdx_length _ _ hi
  cases dim with
  | none =>
    simp only [normRed_all, Option.some.injEq] at hax
    subst hax
    simp only [Option.isNone_none, if_true]
    cases keep with
    | false =>
      rw [reduceShape_all_nokeep] at hgs
      exact get_shape_nil g hgs _ _
    | true =>
      rw [hgs]
      simp only [reduceShape, reduceIdx, if_true, length_setAxes]
      rw [← hlen, setAxes_range_zero]
  | some d =>
    simp only [Option.isNone_some, Bool.false_eq_true, if_false]
    cases keep with
    | true => simp only [if_true]
    | false =>
      have hv := reduceIdx_valid a.shape axes true i hi
      have hv' := reduceIdx_valid a.shape axes false i hi
      show (gather _ _ g).get _ = _
      rw [get_gather _ _ _ _ hv, ravel_reduce_keep_eq _ _ _ hi, hgs, unravel_ravel _ _ hv']

end Ext

section Back
variable {α : Type} [Zero α] [One α] [Mul α]

theorem extBackward_masked (better : α → α → Bool) (a g b : NDArray α) (dim : Option Int) (keep : Bool)
    (hb : extBackward better g a dim keep = some b) (axes : List Nat)
    (hax : (match dim with | none => Axes.all | some d => Axes.one d).normRed a.shape.length = some axes)
    (hgs : g.shape = reduceShape a.shape axes keep) :
    b.shape = a.shape ∧ ∀ i, validIdx a.shape i →
      b.get i = if argExt better a axes keep (reduceIdx axes keep i) = i
                then g.get (reduceIdx axes keep i) * 1 else g.get (reduceIdx axes keep i) * 0 := by
  unfold extBackward at hb
  obtain ⟨axes', hax', hb⟩ := Option.bind_eq_some_iff.1 hb
  obtain rfl : axes' = axes := Option.some.inj (hax'.symm.trans hax)
  obtain rfl := Option.some.inj hb
  refine ⟨rfl, fun i hi => ?_⟩
  rw [get_ofFn _ _ _ hi, ← extBackward_read g a dim keep _ hax hgs i hi]
  cases dim <;> simp only [Option.isNone_none, Option.isNone_some, Bool.or_true, Bool.or_false, if_true, beq_iff_eq,
    Bool.false_eq_true, if_false]

theorem extBackward_total (better : α → α → Bool) (a g : NDArray α) (dim : Option Int) (keep : Bool)
    (axes : List Nat)
    (hax : (match dim with | none => Axes.all | some d => Axes.one d).normRed a.shape.length = some axes) :
    ∃ b, extBackward better g a dim keep = some b ∧ b.shape = a.shape := by
  unfold extBackward
  exact ⟨_, Option.bind_eq_some_iff.2 ⟨axes, hax, rfl⟩, rfl⟩

end Back

theorem getElem?_concat_eq_some {β : Type} (l : List β) (x y : β) (j : Nat) :
    (l ++ [x])[j]? = some y ↔ l[j]? = some y ∨ (j = l.length ∧ x = y) := by
  rcases Nat.lt_trichotomy j l.length with h | rfl | h
  · rw [List.getElem?_append_left h]
    exact ⟨Or.inl, fun h' => h'.elim id fun h'' => absurd h''.1 h.ne⟩
  · rw [List.getElem?_concat_length, List.getElem?_eq_none (Nat.le_refl _), Option.some.injEq]
    exact ⟨fun h' => Or.inr ⟨rfl, h'⟩, fun h' => h'.elim nofun And.right⟩
  · rw [List.getElem?_eq_none (by rw [List.length_append]; exact h), List.getElem?_eq_none h.le]
    exact ⟨nofun, fun h' => h'.elim nofun fun h'' => absurd h''.1 h.ne'⟩

section FM
variable {α : Type} [LinearOrder α]

theorem firstMax_snoc (l : List (Option α)) (x : Option α) :
    firstMax (l ++ [x]) =
      (match x, firstMax l with
       | some xv, none => some (xv, l.length)
       | some xv, some (bv, bk) => if bv < xv then some (xv, l.length) else some (bv, bk)
       | none, b => b) := by
  unfold firstMax
  rw [List.zipIdx_append, List.foldl_append]
  simp only [List.zipIdx_cons, List.zipIdx_nil, List.foldl_cons, List.foldl_nil, Nat.zero_add]
  generalize List.foldl _ _ _ = b
  rcases b with _ | ⟨bv, bk⟩ <;> cases x <;> rfl

theorem firstMax_inv (vals : List (Option α)) :
    (firstMax vals = none ∧ ∀ (j : Nat) (w : α), vals[j]? ≠ some (some w)) ∨
    (∃ v k, firstMax vals = some (v, k) ∧ vals[k]? = some (some v) ∧
      ∀ (j : Nat) (w : α), vals[j]? = some (some w) → w ≤ v) := by
  induction vals using List.reverseRecOn with
  | nil => exact Or.inl ⟨rfl, fun _ _ => nofun⟩
  | append_singleton l x ih =>
    rw [firstMax_snoc]
    cases x with
    | none => simpa only [ne_eq, getElem?_concat_eq_some, reduceCtorEq, and_false, or_false] using ih
    | some xv =>
      right
      simp only [getElem?_concat_eq_some, Option.some.injEq]
      -- the new entry wins unless the old best is at least as large
      rcases ih with ⟨h1, h2⟩ | ⟨v, k, h1, h2, h3⟩
      · exact ⟨xv, l.length, by rw [h1], Or.inr ⟨rfl, rfl⟩,
          fun j w hw => hw.elim (fun hw => absurd hw (h2 j w)) fun hw => hw.2.ge⟩
      · rw [h1]
        by_cases hlt : v < xv
        · exact ⟨xv, l.length, if_pos hlt, Or.inr ⟨rfl, rfl⟩,
            fun j w hw => hw.elim (fun hw => (h3 j w hw).trans hlt.le) fun hw => hw.2.ge⟩
        · exact ⟨v, k, if_neg hlt, Or.inl h2,
            fun j w hw => hw.elim (h3 j w) fun hw => hw.2 ▸ le_of_not_gt hlt⟩

theorem firstMax_spec (vals : List (Option α)) (hreal : ∃ (k : Nat) (v : α), vals[k]? = some (some v)) :
    ∃ v k, firstMax vals = some (v, k) ∧ vals[k]? = some (some v) ∧ ∀ (j : Nat) (w : α), vals[j]? = some (some w) → w ≤ v := by
  obtain ⟨k0, v0, hk0⟩ := hreal
  rcases firstMax_inv vals with ⟨_, h2⟩ | h
  · exact absurd hk0 (h2 k0 v0)
  · exact h

end FM

variable {K : Type} [Field K] [LinearOrder K] [IsStrictOrderedRing K]

/-- the first arg-min of the fibre of `o` lies in that fibre, attains the forward value, and is dominated by the
    whole fibre (for `max`: `Props.C01.max_selects_argmax`) -/
theorem argmin_spec (a y : NDArray K) (ha : a.WF) (dim : Option Int) (keep : Bool) (h : minForward a dim keep = some y)
    (axes : List Nat) (hax : (match dim with | none => Axes.all | some d => Axes.one d).normRed a.shape.length = some axes)
    (o : Idx) (ho : validIdx y.shape o) :
    let j := argExt (fun x y => decide (x < y)) a axes keep o
    validIdx a.shape j ∧ reduceIdx axes keep j = o ∧ y.get o = a.get j ∧
    ∀ i, validIdx a.shape i → reduceIdx axes keep i = o → a.get j ≤ a.get i := by
  exact argExt_spec (fun x y => y ≤ x) (fun x y => le_total y x) (fun _ _ _ h1 h2 => le_trans h2 h1) _
    (fun x y => by simp) a y dim keep h axes hax o ho

end Proofs.Subgrad
