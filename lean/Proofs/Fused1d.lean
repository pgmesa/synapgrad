import Proofs.SpecNN
/-!
# 1-d convolution and pooling are the 2-d kernels on the one-row image `x[:, :, None, :]` (C14)

The library's `unfold` takes 4-d input only, so "conv1d = unfold + matmul" and "pool1d = windows + max / mean" are
reached through the lift `(N, C, L) ↦ (N, C, 1, L)`: the independent 1-d kernels of the model equal the 2-d kernels
with kernel `(1, k)`, stride `(1, s)`, padding `(0, p)`, dilation `(1, d)` on the lifted operands, and the 2-d
theorems (`conv2d_is_unfold_matmul`, `avgpool2d_is_unfold_mean`, `maxpool2d_is_unfold_max`) apply to those.
-/
namespace Proofs.Fused1d
open Synap Synap.NDArray Synap.Np Synap.Kernels Proofs.Core Proofs.Adjoint Proofs.ConvTools

section
variable {α : Type} [Zero α]

theorem lift_row (x : NDArray α) (n c l : Nat) (hx : x.shape = [n, c, l]) :
    unsqueezeForward x [2] = some (reshapeTo x [n, c, 1, l]) ∧
    ∀ bn cc q, bn < n → cc < c → q < l → (reshapeTo x [n, c, 1, l]).get [bn, cc, 0, q] = x.get [bn, cc, q] := by
  obtain ⟨_, data⟩ := x
  cases hx
  exact ⟨expandDims_single _ 2 2 rfl, fun bn cc q h1 h2 h3 =>
    get_reshapeTo_insertAt_one _ 2 [bn, cc, q] (Nat.le_succ 2) ⟨h1, h2, h3, trivial⟩⟩

theorem ofFn_eq_lift_row (n c l : Nat) (F G : Idx → α)
    (h : ∀ bn cc t, bn < n → cc < c → t < l → G [bn, cc, 0, t] = F [bn, cc, t]) :
    ofFn [n, c, 1, l] G = reshapeTo (ofFn [n, c, l] F) [n, c, 1, l] := by
  refine ext_get _ _ (ofFn_wf _ _) (ofFn_wf _ _) rfl ?_
  intro q hq
  change validIdx [n, c, 1, l] q at hq
  obtain ⟨bn, cc, i, t, rfl, hbn, hcc, hi, ht⟩ := validIdx4 hq
  obtain rfl : i = 0 := Nat.lt_one_iff.1 hi
  rw [get_ofFn _ _ _ hq, (lift_row _ n c l rfl).2 bn cc t hbn hcc ht,
    get_ofFn [n, c, l] _ [bn, cc, t] ⟨hbn, hcc, ht, trivial⟩, h bn cc t hbn hcc ht]

theorem convOut_row : convOut 1 1 1 0 1 = some 1 := by decide

/-- the geometry a 2-d theorem returns for a one-row operand is the 1-d geometry -/
theorem row_geom {n c l lo n' c' H W lh lw k s p d : Nat} {s4 : Shape} (hx4 : s4 = [n, c, 1, l])
    (e1 : s4 = [n', c', H, W]) (e3 : convOut H 1 1 0 1 = some lh) (e4 : convOut W k s p d = some lw)
    (hlo : convOut l k s p d = some lo) : n = n' ∧ c = c' ∧ 1 = H ∧ l = W ∧ 1 = lh ∧ lo = lw := by
  rw [hx4] at e1
  obtain ⟨rfl, rfl, rfl, rfl⟩ := e1
  exact ⟨rfl, rfl, rfl, rfl, Option.some.inj (convOut_row.symm.trans e3), Option.some.inj (hlo.symm.trans e4)⟩

theorem winPos_row : winPos 1 1 0 1 0 0 = some 0 := by decide

theorem readPad_row (x : NDArray α) (pad : α) (n c l bn cc : Nat) (hx : x.shape = [n, c, l]) (hbn : bn < n) (hcc : cc < c)
    (s p d t a : Nat) :
    readPad2 (reshapeTo x [n, c, 1, l]) pad bn cc (some 0) (winPos l s p d t a) = readPad1 x pad bn cc (winPos l s p d t a) := by
  cases hw : winPos l s p d t a with
  | none => rfl
  | some q => exact (lift_row x n c l hx).2 bn cc q hbn hcc (winPos_lt hw)

theorem win2_row {β : Type} {l k s p d t : Nat} (f2 : Option (Nat × Nat) → β) (f1 : Option Nat → β)
    (hn : f2 none = f1 none) (hs : ∀ q, q < l → f2 (some (0, q)) = f1 (some q)) :
    (win2 1 l (1, k) (1, s) (0, p) (1, d) 0 t).map f2 = (List.range k).map (fun a => f1 (winPos l s p d t a)) := by
  simp only [win2, List.range_one, List.flatMap_cons, List.flatMap_nil, List.append_nil, winPos_row, List.map_map]
  refine List.map_congr_left fun b _ => ?_
  rw [Function.comp_apply]
  cases hw : winPos l s p d t b with
  | none => exact hn
  | some q => exact hs q (winPos_lt hw)
end

section Conv
variable {R : Type} [CommRing R]

/-- **conv1d = conv2d on the one-row lift**: for accepted arguments, `conv2d(x[:, :, None, :], w[:, :, None, :],
    stride (1, s), padding (0, p), dilation (1, d))` is accepted and IS `conv1d(x, w)[:, :, None, :]` -/
theorem conv1d_is_conv2d_row (x w y : NDArray R) (s p d : Nat) (h : conv1dForward x w none s p d = some y) :
    ∃ n c l co k lo x4 w4 y4, x.shape = [n, c, l] ∧ w.shape = [co, c, k] ∧ convOut l k s p d = some lo ∧
      y.shape = [n, co, lo] ∧ y.WF ∧
      unsqueezeForward x [2] = some x4 ∧ unsqueezeForward w [2] = some w4 ∧ unsqueezeForward y [2] = some y4 ∧
      x4.shape = [n, c, 1, l] ∧ w4.shape = [co, c, 1, k] ∧ y4.shape = [n, co, 1, lo] ∧
      conv2dForward x4 w4 none (1, s) (0, p) (1, d) = some y4 ∧
      ∀ bn o t, bn < n → o < co → t < lo → y4.get [bn, o, 0, t] = y.get [bn, o, t] := by
  obtain ⟨n, c, l, co, k, lo, hxs, hws, hlo, -, rfl⟩ := conv1d_inv x w y none s p d h
  obtain ⟨hx4, hx4g⟩ := lift_row x n c l hxs
  obtain ⟨hw4, hw4g⟩ := lift_row w co c k hws
  refine ⟨n, c, l, co, k, lo, _, _, _, hxs, hws, hlo, rfl, ofFn_wf _ _, hx4, hw4, (lift_row _ n co lo rfl).1, rfl, rfl, rfl,
    ?_, (lift_row _ n co lo rfl).2⟩
  rw [conv2d_some _ _ none (1, s) (0, p) (1, d) rfl rfl convOut_row hlo (fun bv hbv => by cases hbv)]
  refine congrArg some (ofFn_eq_lift_row n co lo _ _ ?_)
  intro bn o t hbn ho ht
  simp only [getI_cons_zero, getI_cons_succ, sum_flatMap_range, sum_map_range, List.range_one, List.flatMap_cons,
    List.flatMap_nil, List.append_nil, winPos_row]
  refine Finset.sum_congr rfl (fun cc hcc => Finset.sum_congr rfl (fun a ha => ?_))
  rw [hw4g o cc a ho (Finset.mem_range.1 hcc) (Finset.mem_range.1 ha),
    readPad_row x 0 n c l bn cc hxs hbn (Finset.mem_range.1 hcc)]
end Conv

section Pool
variable {K : Type} [Field K] [LinearOrder K]

omit [LinearOrder K] in
/-- **avg_pool1d = avg_pool2d on the one-row lift** -/
theorem avgpool1d_is_avgpool2d_row (x y : NDArray K) (k s p d : Nat) (h : avgPool1dForward x k s p d = some y) :
    ∃ n c l lo x4 y4, x.shape = [n, c, l] ∧ convOut l k s p d = some lo ∧ y.shape = [n, c, lo] ∧ y.WF ∧
      unsqueezeForward x [2] = some x4 ∧ unsqueezeForward y [2] = some y4 ∧
      x4.shape = [n, c, 1, l] ∧ y4.shape = [n, c, 1, lo] ∧
      avgPool2dForward x4 (1, k) (1, s) (0, p) (1, d) = some y4 ∧
      ∀ bn cc t, bn < n → cc < c → t < lo → y4.get [bn, cc, 0, t] = y.get [bn, cc, t] := by
  obtain ⟨n, c, l, lo, hxs, hlo, rfl⟩ := avgPool1d_inv x y k s p d h
  obtain ⟨hx4, hx4g⟩ := lift_row x n c l hxs
  refine ⟨n, c, l, lo, _, _, hxs, hlo, rfl, ofFn_wf _ _, hx4, (lift_row _ n c lo rfl).1, rfl, rfl, ?_,
    (lift_row _ n c lo rfl).2⟩
  simp only [avgPool2dForward,
    poolGeom2_eq (reshapeTo x [n, c, 1, l]) (1, k) (1, s) (0, p) (1, d) n c 1 l 1 lo rfl convOut_row hlo,
    Option.bind_eq_bind, Option.bind_some, Option.pure_def, Option.some.injEq]
  apply ofFn_eq_lift_row n c lo
  intro bn cc t hbn hcc ht
  simp only [getI_cons_zero, getI_cons_succ, one_mul]
  rw [win2_row _ (readPad1 x 0 bn cc) rfl (fun q => hx4g bn cc q hbn hcc)]

omit [Field K] in
/-- **max_pool1d = max_pool2d on the one-row lift** (same `−∞` padding value) -/
theorem maxpool1d_is_maxpool2d_row [Zero K] (x y : NDArray K) (negInf : K) (k s p d : Nat)
    (h : maxPool1dForward x negInf k s p d = some y) :
    ∃ n c l lo x4 y4, x.shape = [n, c, l] ∧ convOut l k s p d = some lo ∧ y.shape = [n, c, lo] ∧ y.WF ∧
      unsqueezeForward x [2] = some x4 ∧ unsqueezeForward y [2] = some y4 ∧
      x4.shape = [n, c, 1, l] ∧ y4.shape = [n, c, 1, lo] ∧
      maxPool2dForward x4 negInf (1, k) (1, s) (0, p) (1, d) = some y4 ∧
      ∀ bn cc t, bn < n → cc < c → t < lo → y4.get [bn, cc, 0, t] = y.get [bn, cc, t] := by
  obtain ⟨n, c, l, lo, hxs, hlo, rfl⟩ := maxPool1d_inv x y negInf k s p d h
  obtain ⟨hx4, hx4g⟩ := lift_row x n c l hxs
  refine ⟨n, c, l, lo, _, _, hxs, hlo, rfl, ofFn_wf _ _, hx4, (lift_row _ n c lo rfl).1, rfl, rfl, ?_,
    (lift_row _ n c lo rfl).2⟩
  simp only [maxPool2dForward,
    poolGeom2_eq (reshapeTo x [n, c, 1, l]) (1, k) (1, s) (0, p) (1, d) n c 1 l 1 lo rfl convOut_row hlo,
    Option.bind_eq_bind, Option.bind_some, Option.pure_def, Option.some.injEq]
  apply ofFn_eq_lift_row n c lo
  intro bn cc t hbn hcc ht
  simp only [getI_cons_zero, getI_cons_succ]
  rw [win2_row _ (Option.map fun q => x.get [bn, cc, q]) rfl (fun q hq => congrArg some (hx4g bn cc q hbn hcc hq))]
  rfl
end Pool

section Corollaries
open Proofs.SpecNN Finset Synap.ConvTools

/-- **conv1d = unfold + matmul**: with `x4 = x[:, :, None, :]`, `w4 = w[:, :, None, :]`:
    `cols = unfold(x4, (1,k), dilation (1,d), stride (1,s), padding (0,p))`, `wmat = w4.reshape(C_out, C·k)`,
    `mm = wmat @ cols`, and `mm.reshape(N, C_out, 1, L_out)` IS `conv1d(x, w)[:, :, None, :]`; entry by entry
    `conv1d(x,w)[n,o,t] = Σ_r wmat[o,r]·cols[n,r,t]`. -/
theorem conv1d_is_unfold_matmul {R : Type} [CommRing R] (x w y : NDArray R) (s p d : Nat)
    (h : conv1dForward x w none s p d = some y) :
    ∃ n c l co k lo x4 w4 y4 wmat cols mm,
      x.shape = [n, c, l] ∧ w.shape = [co, c, k] ∧ y.shape = [n, co, lo] ∧ convOut l k s p d = some lo ∧
      unsqueezeForward x [2] = some x4 ∧ unsqueezeForward w [2] = some w4 ∧ unsqueezeForward y [2] = some y4 ∧
      reshapeForward w4 [(co : Int), ((c * 1 * k : Nat) : Int)] = some wmat ∧
      im2colView ⟨n, c, 1, l, (1, k), (1, s), (0, p), (1, d)⟩ x4 0 = some cols ∧
      matmulForward wmat cols = some mm ∧
      reshapeForward mm [(n : Int), (co : Int), ((1 : Nat) : Int), (lo : Int)] = some y4 ∧
      (∀ bn o t, bn < n → o < co → t < lo → y4.get [bn, o, 0, t] = y.get [bn, o, t]) ∧
      ∀ bn o t, bn < n → o < co → t < lo →
        y.get [bn, o, t] = ∑ r ∈ range (c * 1 * k), wmat.get [o, r] * cols.get [bn, r, t] := by
  obtain ⟨n, c, l, co, k, lo, x4, w4, y4, hxs, hws, hlo, hys, -, hx4, hw4, hy4, hx4s, hw4s, -, hconv, hget⟩ :=
    conv1d_is_conv2d_row x w y s p d h
  obtain ⟨n', c', H, W, co', kh, kw, lh, lw, wmat, cols, mm, e1, e2, e3, e4, e5, e6, e7, e8, -, -, -, -, -, e9⟩ :=
    conv2d_is_unfold_matmul x4 w4 y4 (1, s) (0, p) (1, d) hconv
  rw [hw4s] at e2
  simp only [List.cons.injEq, and_true] at e2
  obtain ⟨rfl, -, rfl, rfl⟩ := e2
  obtain ⟨rfl, rfl, rfl, rfl, rfl, rfl⟩ := row_geom hx4s e1 e3 e4 hlo
  refine ⟨n, c, l, co, k, lo, x4, w4, y4, wmat, cols, mm, hxs, hws, hys, hlo, hx4, hw4, hy4, e5, e6, e7, e8, hget, ?_⟩
  intro bn o t hbn ho ht
  rw [← hget bn o t hbn ho ht, e9 bn o 0 t hbn ho Nat.one_pos ht, Nat.zero_mul, Nat.zero_add]

variable {K : Type} [Field K] [LinearOrder K]

omit [LinearOrder K] in
/-- **avg_pool1d = windows + mean**: `cols = unfold(x[:, :, None, :], (1,k), …)` (pad value 0),
    `r4 = cols.reshape(N, C, k, L_out)`, `m = r4.mean(axis=2)`, and `m.reshape(N, C, 1, L_out)` IS
    `avg_pool1d(x)[:, :, None, :]`; entry by entry `avg_pool1d(x)[n,c,t] = (Σ_q r4[n,c,q,t]) / k`. -/
theorem avgpool1d_is_unfold_mean (x y : NDArray K) (k s p d : Nat) (h : avgPool1dForward x k s p d = some y) :
    ∃ n c l lo x4 y4 cols r4 m,
      x.shape = [n, c, l] ∧ y.shape = [n, c, lo] ∧ convOut l k s p d = some lo ∧
      unsqueezeForward x [2] = some x4 ∧ unsqueezeForward y [2] = some y4 ∧
      im2colView ⟨n, c, 1, l, (1, k), (1, s), (0, p), (1, d)⟩ x4 0 = some cols ∧
      reshapeForward cols [(n : Int), (c : Int), ((1 * k : Nat) : Int), ((1 * lo : Nat) : Int)] = some r4 ∧
      meanForward r4 (.one 2) false = some m ∧
      reshapeForward m [(n : Int), (c : Int), ((1 : Nat) : Int), (lo : Int)] = some y4 ∧
      (∀ bn cc t, bn < n → cc < c → t < lo → y4.get [bn, cc, 0, t] = y.get [bn, cc, t]) ∧
      ∀ bn cc t, bn < n → cc < c → t < lo →
        y.get [bn, cc, t] = (∑ q ∈ range (1 * k), r4.get [bn, cc, q, t]) / ((1 * k : Nat) : K) := by
  obtain ⟨n, c, l, lo, x4, y4, hxs, hlo, hys, -, hx4, hy4, hx4s, -, hpool, hget⟩ :=
    avgpool1d_is_avgpool2d_row x y k s p d h
  obtain ⟨n', c', H, W, lh, lw, cols, r4, m, e1, e3, e4, e5, e6, e7, e8, -, -, -, e9⟩ :=
    avgpool2d_is_unfold_mean x4 y4 (1, k) (1, s) (0, p) (1, d) hpool
  obtain ⟨rfl, rfl, rfl, rfl, rfl, rfl⟩ := row_geom hx4s e1 e3 e4 hlo
  refine ⟨n, c, l, lo, x4, y4, cols, r4, m, hxs, hys, hlo, hx4, hy4, e5, e6, e7, e8, hget, ?_⟩
  intro bn cc t hbn hcc ht
  rw [← hget bn cc t hbn hcc ht, e9 bn cc 0 t hbn hcc Nat.one_pos ht, Nat.zero_mul, Nat.zero_add]

/-- **max_pool1d = windows + max** (same guards as in 2-d: non-empty batch and channel axes, `negInf` below every
    entry): `cols = unfold(x[:, :, None, :], (1,k), …, pad_value=negInf)`, `r4 = cols.reshape(N, C, k, L_out)`,
    `m = r4.max(dim=2)`, and `m.reshape(N, C, 1, L_out)` IS `max_pool1d(x)[:, :, None, :]`; each entry is attained on,
    and dominates, the column `r4[n, c, :, t]`. -/
theorem maxpool1d_is_unfold_max (x y : NDArray K) (negInf : K) (k s p d : Nat)
    (h : maxPool1dForward x negInf k s p d = some y)
    (hn : x.shape.getD 0 0 ≠ 0) (hc : x.shape.getD 1 0 ≠ 0)
    (hneg : ∀ q, validIdx x.shape q → negInf ≤ x.get q) :
    ∃ n c l lo x4 y4 cols r4 m,
      x.shape = [n, c, l] ∧ y.shape = [n, c, lo] ∧ convOut l k s p d = some lo ∧
      unsqueezeForward x [2] = some x4 ∧ unsqueezeForward y [2] = some y4 ∧
      im2colView ⟨n, c, 1, l, (1, k), (1, s), (0, p), (1, d)⟩ x4 negInf = some cols ∧
      reshapeForward cols [(n : Int), (c : Int), ((1 * k : Nat) : Int), ((1 * lo : Nat) : Int)] = some r4 ∧
      maxForward r4 (some 2) false = some m ∧
      reshapeForward m [(n : Int), (c : Int), ((1 : Nat) : Int), (lo : Int)] = some y4 ∧
      (∀ bn cc t, bn < n → cc < c → t < lo → y4.get [bn, cc, 0, t] = y.get [bn, cc, t]) ∧
      ∀ bn cc t, bn < n → cc < c → t < lo →
        (∃ q, q < 1 * k ∧ y.get [bn, cc, t] = r4.get [bn, cc, q, t]) ∧
        (∀ q, q < 1 * k → r4.get [bn, cc, q, t] ≤ y.get [bn, cc, t]) := by
  obtain ⟨n, c, l, lo, x4, y4, hxs, hlo, hys, -, hx4, hy4, hx4s, -, hpool, hget⟩ :=
    maxpool1d_is_maxpool2d_row x y negInf k s p d h
  obtain rfl : x4 = reshapeTo x [n, c, 1, l] := Option.some.inj (hx4.symm.trans (lift_row x n c l hxs).1)
  obtain ⟨n', c', H, W, lh, lw, cols, r4, m, e1, e3, e4, e5, e6, e7, e8, -, -, -, e9⟩ :=
    maxpool2d_is_unfold_max _ y4 negInf (1, k) (1, s) (0, p) (1, d) hpool
      (by rw [hxs] at hn; exact hn) (by rw [hxs] at hc; exact hc)
      (by
        intro q hq
        obtain ⟨bn, cc, i, t, rfl, hbn, hcc, hi, ht⟩ := validIdx4 hq
        obtain rfl : i = 0 := Nat.lt_one_iff.1 hi
        rw [(lift_row x n c l hxs).2 bn cc t hbn hcc ht]
        exact hneg _ (by rw [hxs]; exact ⟨hbn, hcc, ht, trivial⟩))
  obtain ⟨rfl, rfl, rfl, rfl, rfl, rfl⟩ := row_geom hx4s e1 e3 e4 hlo
  refine ⟨n, c, l, lo, _, y4, cols, r4, m, hxs, hys, hlo, hx4, hy4, e5, e6, e7, e8, hget, ?_⟩
  intro bn cc t hbn hcc ht
  have := e9 bn cc 0 t hbn hcc Nat.one_pos ht
  rwa [hget bn cc t hbn hcc ht, Nat.zero_mul, Nat.zero_add] at this

end Corollaries

end Proofs.Fused1d
