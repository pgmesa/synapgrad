import Mathlib.Tactic.Ring
import Proofs.SumLemmas
import Proofs.AdjointReshape
import Proofs.AdjointPerm
import SynapModel.ConvTools
/-!
# im2col / col2im (C16): implementations against specification, and the window adjoint identity

The three implementations of im2col and of col2im against their specification, and the adjoint
identity behind extract / place and im2col / col2im (`window_adjoint`).  col2im is handled through
`placeVal`, the placement of an arbitrary window family `Y i j a b`; the coverage count of C16 is
`placeVal` of a constant family.
-/
namespace Proofs.ConvTools
open Synap Synap.NDArray Synap.Np Synap.ConvTools Proofs.Core

theorem getI_cons_zero (a : Nat) (l : Idx) : getI (a :: l) 0 = a := rfl
theorem getI_cons_succ (a : Nat) (l : Idx) (k : Nat) : getI (a :: l) (k + 1) = getI l k := rfl
theorem getI_nil (k : Nat) : getI [] k = 0 := rfl

theorem length_repeatL (l : List Nat) (n : Nat) : (repeatL l n).length = l.length * n := by simp [repeatL]

theorem getElem?_repeatL (l : List Nat) (n : Nat) (hn : 0 < n) (i : Nat) :
    (repeatL l n)[i]? = l[i / n]? := by
  unfold repeatL
  induction l generalizing i with
  | nil => rfl
  | cons x l ih =>
    rw [List.flatMap_cons]
    by_cases h : i < n
    · rw [List.getElem?_append_left (List.length_replicate ▸ h), Nat.div_eq_of_lt h,
        List.getElem?_replicate, if_pos h]
      rfl
    · have h' : n ≤ i := Nat.le_of_not_lt h
      rw [List.getElem?_append_right (List.length_replicate ▸ h'), List.length_replicate, ih,
        ← Nat.sub_add_cancel h', Nat.add_div_right _ hn, Nat.add_sub_cancel]
      rfl

theorem getElem?_tileL (l : List Nat) (n i : Nat) (h : i < n * l.length) :
    (tileL l n)[i]? = l[i % l.length]? := by
  have hpos : 0 < l.length := Nat.pos_of_lt_mul_left h
  have := getElem?_flatMap_range n l.length (fun _ => l) (fun _ => rfl) (i / l.length) (i % l.length)
    ((Nat.div_lt_iff_lt_mul hpos).2 h) (Nat.mod_lt _ hpos)
  rwa [Nat.div_add_mod' i l.length] at this

theorem length_arangeStep (n s : Nat) : (arangeStep n s).length = n := by simp [arangeStep]

theorem getElem?_arangeStep (n s i : Nat) (h : i < n) : (arangeStep n s)[i]? = some (i * s) := by
  simp [arangeStep, h]

/-! ### index arithmetic of the layout: row `r = c·(kH·kW) + (a·kW + b)`, column `l = i·lW + j` -/

theorem unravel3 (c k1 k2 r : Nat) :
    unravel [c, k1, k2] r = [r / (k1 * k2), r / k2 % k1, r % k2] := by
  simp only [unravel, Shape.size, List.foldr, Nat.mul_one, Nat.div_one]
  rw [Nat.mod_mul_left_div_self, Nat.mod_mod_of_dvd _ (Nat.dvd_mul_left _ _)]

theorem row_decomp (r k1 k2 : Nat) :
    r / (k1 * k2) * (k1 * k2) + r / k2 % k1 * k2 + r % k2 = r := by
  have h2 := Nat.div_add_mod' (r / k2) k1
  rw [Nat.div_div_eq_div_mul, Nat.mul_comm k2 k1] at h2
  rw [← Nat.mul_assoc, ← Nat.add_mul, h2, Nat.div_add_mod']

theorem row_facts {c ab k1 k2 : Nat} (hab : ab < k1 * k2) :
    (c * (k1 * k2) + ab) / (k1 * k2) = c ∧ (c * (k1 * k2) + ab) / k2 % k1 = ab / k2 ∧
    (c * (k1 * k2) + ab) % k2 = ab % k2 := by
  have hk2 : 0 < k2 := Nat.pos_of_lt_mul_left hab
  refine ⟨(div_mod_facts hab).1, ?_, ?_⟩
  · rw [← Nat.mul_assoc, Nat.add_comm, Nat.add_mul_div_right _ _ hk2, Nat.add_mul_mod_self_right,
      Nat.mod_eq_of_lt]
    rw [Nat.div_lt_iff_lt_mul hk2]; exact hab
  · rw [← Nat.mul_assoc, Nat.add_comm, Nat.add_mul_mod_self_right]

theorem row_lt {cc c ab k1 k2 : Nat} (hc : cc < c) (hab : ab < k1 * k2) : cc * (k1 * k2) + ab < c * k1 * k2 := by
  rw [Nat.mul_assoc]; exact mul_add_lt_mul hc hab

theorem ravel_view (lh lw n c k1 k2 i j m cc a b : Nat) :
    ravel [lh * lw, n, c * k1 * k2] [i * lw + j, m, cc * (k1 * k2) + a * k2 + b]
      = ravel [lh, lw, n, c, k1, k2] [i, j, m, cc, a, b] := by
  simp only [ravel, Shape.size, List.foldr]
  ring

/-! ### closed forms of the index arrays of `get_im2col_indices` -/
section ColIdx
variable (g : Geom) (lh lw : Nat)

theorem colIdx_k {r : Nat} (hk : 0 < g.k.1 ∧ 0 < g.k.2) (hr : r < g.c * g.k.1 * g.k.2) :
    (colIndices g lh lw).k.getD r 0 = r / (g.k.1 * g.k.2) := by
  have h1 : r / (g.k.1 * g.k.2) < g.c := (div_mod_lt_of_lt_mul (Nat.mul_assoc .. ▸ hr)).1
  simp only [colIndices, List.getD_eq_getElem?_getD, getElem?_repeatL _ _ (Nat.mul_pos hk.1 hk.2),
    List.getElem?_range h1, Option.getD_some]

theorem colIdx_i0 {r : Nat} (hk : 0 < g.k.1 ∧ 0 < g.k.2) (hr : r < g.c * g.k.1 * g.k.2) :
    (colIndices g lh lw).i0.getD r 0 = (r / g.k.2 % g.k.1) * g.d.1 := by
  have hlen : (repeatL (arangeStep g.k.1 g.d.1) g.k.2).length = g.k.1 * g.k.2 := by
    rw [length_repeatL, length_arangeStep]
  have h1 : r < g.c * (repeatL (arangeStep g.k.1 g.d.1) g.k.2).length := by
    rw [hlen, ← Nat.mul_assoc]; exact hr
  have h2 : r % (g.k.1 * g.k.2) / g.k.2 = r / g.k.2 % g.k.1 := Nat.mod_mul_left_div_self _ _ _
  have h3 : r / g.k.2 % g.k.1 < g.k.1 := Nat.mod_lt _ hk.1
  simp only [colIndices, List.getD_eq_getElem?_getD]
  rw [getElem?_tileL _ _ _ h1, hlen, getElem?_repeatL _ _ hk.2, h2, getElem?_arangeStep _ _ _ h3,
    Option.getD_some]

theorem colIdx_j0 {r : Nat} (hk : 0 < g.k.1 ∧ 0 < g.k.2) (hr : r < g.c * g.k.1 * g.k.2) :
    (colIndices g lh lw).j0.getD r 0 = (r % g.k.2) * g.d.2 := by
  have h1 : r < g.k.1 * g.c * (arangeStep g.k.2 g.d.2).length := by
    rw [length_arangeStep, Nat.mul_comm g.k.1 g.c]; exact hr
  simp only [colIndices, List.getD_eq_getElem?_getD]
  rw [getElem?_tileL _ _ _ h1, length_arangeStep, getElem?_arangeStep _ _ _ (Nat.mod_lt _ hk.2),
    Option.getD_some]

theorem colIdx_i1 {l : Nat} (hl : l < lh * lw) :
    (colIndices g lh lw).i1.getD l 0 = g.s.1 * (l / lw) := by
  simp only [colIndices, List.getD_eq_getElem?_getD, List.getElem?_map,
    getElem?_repeatL _ _ (Nat.pos_of_lt_mul_left hl), List.getElem?_range (div_mod_lt_of_lt_mul hl).1,
    Option.map_some, Option.getD_some]

theorem colIdx_j1 {l : Nat} (hl : l < lh * lw) :
    (colIndices g lh lw).j1.getD l 0 = g.s.2 * (l % lw) := by
  have hw : 0 < lw := Nat.pos_of_lt_mul_left hl
  have h1 : l < lh * (List.range lw).length := by rw [List.length_range]; exact hl
  simp only [colIndices, List.getD_eq_getElem?_getD, List.getElem?_map]
  rw [getElem?_tileL _ _ _ h1, List.length_range, List.getElem?_range (Nat.mod_lt _ hw)]
  rfl

end ColIdx

section Im2col
variable {α : Type} [Zero α]

theorem im2colSpec_eq (g : Geom) (x : NDArray α) (pad : α) (lh lw : Nat) (ho : g.out = some (lh, lw)) :
    im2colSpec g x pad = some (ofFn [g.n, g.c * g.k.1 * g.k.2, lh * lw] fun q =>
      padGet g x pad (getI q 0) (getI q 1 / (g.k.1 * g.k.2))
        (getI q 2 / lw * g.s.1 + getI q 1 / g.k.2 % g.k.1 * g.d.1)
        (getI q 2 % lw * g.s.2 + getI q 1 % g.k.2 * g.d.2)) := by
  rw [im2colSpec, ho]
  rfl

theorem im2colSpec_get (g : Geom) (x u : NDArray α) (pad : α) (lh lw : Nat) (ho : g.out = some (lh, lw))
    (hu : im2colSpec g x pad = some u) {n r l : Nat} (hn : n < g.n) (hr : r < g.c * g.k.1 * g.k.2)
    (hl : l < lh * lw) :
    u.get [n, r, l] = padGet g x pad n (r / (g.k.1 * g.k.2))
      (l / lw * g.s.1 + r / g.k.2 % g.k.1 * g.d.1) (l % lw * g.s.2 + r % g.k.2 * g.d.2) := by
  obtain rfl := Option.some.inj ((im2colSpec_eq g x pad lh lw ho).symm.trans hu)
  exact get_ofFn _ _ _ ⟨hn, hr, hl, trivial⟩

theorem im2colSpec_get_window (g : Geom) (x u : NDArray α) (pad : α) (lh lw : Nat) (ho : g.out = some (lh, lw))
    (hu : im2colSpec g x pad = some u) {n c i j a b : Nat} (hn : n < g.n) (hc : c < g.c) (hi : i < lh)
    (hj : j < lw) (ha : a < g.k.1) (hb : b < g.k.2) :
    u.get [n, c * (g.k.1 * g.k.2) + (a * g.k.2 + b), i * lw + j]
      = padGet g x pad n c (i * g.s.1 + a * g.d.1) (j * g.s.2 + b * g.d.2) := by
  have hab := mul_add_lt_mul ha hb
  have hr := row_lt hc hab
  obtain ⟨f1, f2, f3⟩ := row_facts (c := c) hab
  obtain ⟨h1, h2⟩ := div_mod_facts (a := a) hb
  obtain ⟨h3, h4⟩ := div_mod_facts (a := i) hj
  rw [im2colSpec_get g x u pad lh lw ho hu hn hr (mul_add_lt_mul hi hj), f1, f2, f3, h1, h2, h3, h4]

theorem im2colIdx_eq_spec (g : Geom) (x : NDArray α) (pad : α) (hk : 0 < g.k.1 ∧ 0 < g.k.2) :
    im2colIdx g x pad = im2colSpec g x pad := by
  refine congrArg (Option.map · g.out) (funext fun ⟨lh, lw⟩ => ofFn_congr _ _ _ fun q hq => ?_)
  obtain ⟨n, r, l, rfl, hn, hr, hl⟩ := validIdx3 hq
  simp only [getI_cons_zero, getI_cons_succ]
  rw [colIdx_k g lh lw hk hr, colIdx_i0 g lh lw hk hr, colIdx_j0 g lh lw hk hr, colIdx_i1 g lh lw hl,
    colIdx_j1 g lh lw hl]
  rw [Nat.add_comm (r / g.k.2 % g.k.1 * g.d.1), Nat.mul_comm g.s.1,
    Nat.add_comm (r % g.k.2 * g.d.2), Nat.mul_comm g.s.2]

theorem im2colLoop_eq_spec (g : Geom) (x : NDArray α) (pad : α) :
    im2colLoop g x pad = im2colSpec g x pad := by
  refine congrArg (Option.map · g.out) (funext fun ⟨lh, lw⟩ => ofFn_congr _ _ _ fun q _ => ?_)
  simp only [unravel3, getI_cons_zero, getI_cons_succ]

theorem moveaxis3_0_2 (x : NDArray α) {a b c : Nat} (h : x.shape = [a, b, c]) :
    moveaxis x 0 2 = some (transposeP x [1, 2, 0]) := by
  rw [moveaxis, h]
  rfl

theorem moveaxis3_2_0 (x : NDArray α) {a b c : Nat} (h : x.shape = [a, b, c]) :
    moveaxis x 2 0 = some (transposeP x [2, 0, 1]) := by
  rw [moveaxis, h]
  rfl

/-- reading `np.moveaxis(windows.reshape(L, N, C·kH·kW), 0, 2)` (`im2col_fast`) for a window tensor given by its index function -/
theorem get_im2colView (f : Idx → α) {lh lw n c k1 k2 : Nat} (hk1 : 0 < k1) (hk2 : 0 < k2) {m r l : Nat}
    (hm : m < n) (hr : r < c * k1 * k2) (hl : l < lh * lw) :
    (transposeP (reshapeTo (ofFn [lh, lw, n, c, k1, k2] f) [lh * lw, n, c * k1 * k2]) [1, 2, 0]).get [m, r, l]
      = f [l / lw, l % lw, m, r / (k1 * k2), r / k2 % k1, r % k2] := by
  obtain ⟨hi, hj⟩ := div_mod_lt_of_lt_mul hl
  have hc : r / (k1 * k2) < c := (div_mod_lt_of_lt_mul (Nat.mul_assoc c k1 k2 ▸ hr)).1
  have hv : validIdx [lh, lw, n, c, k1, k2] [l / lw, l % lw, m, r / (k1 * k2), r / k2 % k1, r % k2] :=
    ⟨hi, hj, hm, hc, Nat.mod_lt _ hk1, Nat.mod_lt _ hk2, trivial⟩
  have hrv := ravel_view lh lw n c k1 k2 (l / lw) (l % lw) m (r / (k1 * k2)) (r / k2 % k1) (r % k2)
  rw [Nat.div_add_mod', row_decomp] at hrv
  refine (Adjoint.get_transposeP _ _ _ ?_).trans
    ((Adjoint.get_reshapeTo _ [lh * lw, n, c * k1 * k2] [l, m, r] _ ⟨hl, hm, hr, trivial⟩ hv hrv).trans (get_ofFn _ _ _ hv))
  exact ⟨hm, hr, hl, trivial⟩

theorem im2colView_eq_spec (g : Geom) (x : NDArray α) (pad : α) (hk : 0 < g.k.1 ∧ 0 < g.k.2) :
    im2colView g x pad = im2colSpec g x pad := by
  unfold im2colView extractWindows im2colSpec
  cases ho : g.out with
  | none => rfl
  | some p =>
    obtain ⟨lh, lw⟩ := p
    simp only [Option.map_some, Option.bind_eq_bind, Option.bind_some]
    rw [moveaxis3_0_2 _ (rfl : _ = [lh * lw, g.n, g.rows])]
    refine congrArg some (ext_get (transposeP _ _) _ (ofFn_wf _ _) (ofFn_wf _ _)
      rfl fun q hq => ?_)
    change validIdx [g.n, g.rows, lh * lw] q at hq
    obtain ⟨n, r, l, rfl, hn, hr, hl⟩ := validIdx3 hq
    rw [get_ofFn _ _ _ hq]
    unfold Geom.rows at hr ⊢
    rw [get_im2colView _ hk.1 hk.2 hn hr hl]
    simp only [getI_cons_zero, getI_cons_succ]

end Im2col

open Finset

section Col2im
variable {R : Type} [CommRing R]

/-- what the windows `Y i j a b` (window position `(i, j)`, kernel offset `(a, b)`) add onto pixel `(hh, ww)` -/
def placeVal (g : Geom) (lh lw : Nat) (Y : Nat → Nat → Nat → Nat → R) (hh ww : Nat) : R :=
  ∑ i ∈ range lh, ∑ j ∈ range lw, ∑ a ∈ range g.k.1, ∑ b ∈ range g.k.2,
    if i * g.s.1 + a * g.d.1 = hh + g.p.1 ∧ j * g.s.2 + b * g.d.2 = ww + g.p.2 then Y i j a b else 0

theorem placeVal_congr (g : Geom) (lh lw : Nat) (Y Y' : Nat → Nat → Nat → Nat → R) (hh ww : Nat)
    (h : ∀ i j a b, i < lh → j < lw → a < g.k.1 → b < g.k.2 → Y i j a b = Y' i j a b) :
    placeVal g lh lw Y hh ww = placeVal g lh lw Y' hh ww :=
  Finset.sum_congr rfl (fun _ hi => Finset.sum_congr rfl (fun _ hj => Finset.sum_congr rfl
    (fun _ ha => Finset.sum_congr rfl (fun _ hb => if_congr Iff.rfl
      (h _ _ _ _ (Finset.mem_range.1 hi) (Finset.mem_range.1 hj) (Finset.mem_range.1 ha)
        (Finset.mem_range.1 hb)) rfl))))

theorem placeWindows_eq (g : Geom) (wv : NDArray R) (lh lw : Nat) (ho : g.out = some (lh, lw)) :
    placeWindows g wv = some (ofFn [g.n, g.c, g.h, g.w] fun q =>
      placeVal g lh lw (fun i j a b => wv.get [i, j, getI q 0, getI q 1, a, b]) (getI q 2) (getI q 3)) := by
  -- `+singlePass` with `↓` lemmas: one pass from the root down, a node rewritten before its subterms.  `simp` walks a
  -- term that it leaves unchanged 2^depth times (below a sum it tries `Finset.sum_congr`, finds nothing modified, and
  -- walks the body again by plain congruence; the bound variable is fresh each time, so nothing is cached), and its
  -- default loop walks every rewritten term once more.  For the same reason `placeVal` stays folded until `rfl`.
  simp +singlePass only [↓placeWindows, ho, ↓sum_flatMap_range, ↓sum_map_range]
  rfl

theorem sum_reindex4 {M : Type} [AddCommMonoid M] (k1 k2 lh lw : Nat) (F : Nat → Nat → M) :
    ∑ ab ∈ range (k1 * k2), ∑ l ∈ range (lh * lw), F ab l
      = ∑ i ∈ range lh, ∑ j ∈ range lw, ∑ a ∈ range k1, ∑ b ∈ range k2, F (a * k2 + b) (i * lw + j) := by
  rw [sum_range_mul]
  simp only [sum_range_mul lh lw]
  exact sum_swap22 _ _ _ _ _

theorem col2imSpec_eq (g : Geom) (cols : NDArray R) (lh lw : Nat) (ho : g.out = some (lh, lw)) :
    col2imSpec g cols = some (ofFn [g.n, g.c, g.h, g.w] fun q => placeVal g lh lw
      (fun i j a b => cols.get [getI q 0, getI q 1 * (g.k.1 * g.k.2) + (a * g.k.2 + b), i * lw + j])
      (getI q 2) (getI q 3)) := by
  unfold col2imSpec placeVal
  rw [ho]
  refine congrArg (fun f => some (ofFn _ f)) (funext fun q => ?_)
  simp +singlePass only [↓sum_flatMap_range, ↓sum_map_range]
  rw [sum_reindex4]
  refine Finset.sum_congr rfl (fun i _ => Finset.sum_congr rfl (fun j hj => Finset.sum_congr rfl
    (fun a _ => Finset.sum_congr rfl (fun b hb => ?_))))
  obtain ⟨h1, h2⟩ := div_mod_facts (a := a) (Finset.mem_range.1 hb)
  obtain ⟨h3, h4⟩ := div_mod_facts (a := i) (Finset.mem_range.1 hj)
  rw [h1, h2, h3, h4]

theorem col2imLoop_eq_spec (g : Geom) (cols : NDArray R) (lh lw : Nat) (ho : g.out = some (lh, lw)) :
    col2imLoop g cols = col2imSpec g cols := by
  rw [col2imSpec_eq g cols lh lw ho]
  simp +singlePass only [↓col2imLoop, ho, ↓sum_flatMap_range, ↓sum_map_range, ↓ravel, ↓Shape.size,
    ↓List.foldr, Nat.mul_one, Nat.add_zero]
  rfl

theorem col2imIdx_eq_spec (g : Geom) (cols : NDArray R) (hk : 0 < g.k.1 ∧ 0 < g.k.2) :
    col2imIdx g cols = col2imSpec g cols := by
  refine congrArg (Option.map · g.out) (funext fun ⟨lh, lw⟩ => ofFn_congr _ _ _ fun q hq => ?_)
  obtain ⟨n, cc, hh, ww, rfl, hn, hc, -, -⟩ := validIdx4 hq
  dsimp only [getI_cons_zero, getI_cons_succ]
  simp +singlePass only [↓sum_flatMap_range, ↓sum_map_range]
  unfold Geom.rows
  rw [Nat.mul_assoc, sum_range_mul, Finset.sum_eq_single cc]
  · refine Finset.sum_congr rfl (fun ab hab => Finset.sum_congr rfl (fun l hl => ?_))
    have hab' := Finset.mem_range.1 hab
    have hr := row_lt hc hab'
    obtain ⟨f1, f2, f3⟩ := row_facts (c := cc) hab'
    rw [colIdx_k g lh lw hk hr, colIdx_i0 g lh lw hk hr, colIdx_j0 g lh lw hk hr,
      colIdx_i1 g lh lw (Finset.mem_range.1 hl), colIdx_j1 g lh lw (Finset.mem_range.1 hl), f1, f2, f3]
    rw [Nat.add_comm (ab / g.k.2 * g.d.1), Nat.mul_comm g.s.1,
      Nat.add_comm (ab % g.k.2 * g.d.2), Nat.mul_comm g.s.2]
    exact if_congr (and_iff_right rfl) rfl rfl
  · intro c' hc' hne
    refine Finset.sum_eq_zero (fun ab hab => Finset.sum_eq_zero (fun l hl => ?_))
    have hab' := Finset.mem_range.1 hab
    have hr := row_lt (Finset.mem_range.1 hc') hab'
    rw [colIdx_k g lh lw hk hr, (row_facts (c := c') hab').1]
    exact if_neg (fun h => hne h.1)
  · intro h
    exact absurd (Finset.mem_range.2 hc) h

/-- reading `np.moveaxis(a, 2, 0).reshape(lH, lW, N, C, kH, kW)` (`col2im_fast`) -/
theorem get_col2imView (cols : NDArray R) {lh lw n c k1 k2 : Nat} (hs : cols.shape = [n, c * k1 * k2, lh * lw])
    {i j m cc a b : Nat} (hi : i < lh) (hj : j < lw) (hm : m < n) (hc : cc < c) (ha : a < k1) (hb : b < k2) :
    (reshapeTo (transposeP cols [2, 0, 1]) [lh, lw, n, c, k1, k2]).get [i, j, m, cc, a, b]
      = cols.get [m, cc * (k1 * k2) + (a * k2 + b), i * lw + j] := by
  have hl : i * lw + j < lh * lw := mul_add_lt_mul hi hj
  have hr := row_lt hc (mul_add_lt_mul ha hb)
  have hsh : (transposeP cols [2, 0, 1]).shape = [lh * lw, n, c * k1 * k2] := congrArg (permute · [2, 0, 1]) hs
  have hv : validIdx (transposeP cols [2, 0, 1]).shape [i * lw + j, m, cc * (k1 * k2) + (a * k2 + b)] := by
    rw [hsh]; exact ⟨hl, hm, hr, trivial⟩
  have hrv := (ravel_view lh lw n c k1 k2 i j m cc a b).symm
  rw [Nat.add_assoc, ← hsh] at hrv
  have hv0 : validIdx [lh, lw, n, c, k1, k2] [i, j, m, cc, a, b] := ⟨hi, hj, hm, hc, ha, hb, trivial⟩
  rw [Adjoint.get_reshapeTo _ _ _ _ hv0 hv hrv]
  exact Adjoint.get_transposeP cols [2, 0, 1] _ hv

theorem col2imView_eq_spec (g : Geom) (cols : NDArray R) (lh lw : Nat) (ho : g.out = some (lh, lw))
    (hs : cols.shape = [g.n, g.rows, lh * lw]) : col2imView g cols = col2imSpec g cols := by
  unfold col2imView
  rw [ho, moveaxis3_2_0 cols hs]
  simp only [Option.bind_eq_bind, Option.bind_some]
  rw [placeWindows_eq g _ lh lw ho, col2imSpec_eq g cols lh lw ho]
  refine congrArg some (ofFn_congr _ _ _ fun q hq => ?_)
  obtain ⟨n, cc, hh, ww, rfl, hn, hc, -, -⟩ := validIdx4 hq
  exact placeVal_congr g lh lw _ _ _ _ fun i j a b hi hj ha hb => get_col2imView cols hs hi hj hn hc ha hb

theorem padGet_eq_sum (g : Geom) (x : NDArray R) (n c ih iw : Nat) :
    padGet g x 0 n c ih iw = ∑ hh ∈ range g.h, ∑ ww ∈ range g.w,
      if ih = hh + g.p.1 ∧ iw = ww + g.p.2 then x.get [n, c, hh, ww] else 0 := by
  unfold padGet
  simp only [ite_and, ← ite_sum_zero, sum_range_ite_add]

/-- exchange of summation behind the adjoint identities of this file: a read that is a guarded sum over the pixels -/
theorem adjoint_core4 (I J A B H W : Finset Nat) (P : Nat → Nat → Nat → Nat → Nat → Nat → Prop)
    [∀ i j a b h w, Decidable (P i j a b h w)] (X : Nat → Nat → R) (Y : Nat → Nat → Nat → Nat → R) :
    ∑ i ∈ I, ∑ j ∈ J, ∑ a ∈ A, ∑ b ∈ B, (∑ h ∈ H, ∑ w ∈ W, if P i j a b h w then X h w else 0) * Y i j a b
      = ∑ h ∈ H, ∑ w ∈ W, X h w *
          ∑ i ∈ I, ∑ j ∈ J, ∑ a ∈ A, ∑ b ∈ B, if P i j a b h w then Y i j a b else 0 := by
  -- every factor goes under all six sums and every guard outside the product; what is left is the order of summation
  simp +singlePass only [↓Finset.sum_mul, ↓Finset.mul_sum, ↓ite_mul, ↓mul_ite, ↓zero_mul, ↓mul_zero]
  exact (Finset.sum_congr rfl fun i _ => Finset.sum_congr rfl fun j _ => sum_swap22 A B H W _).trans
    (sum_swap22 I J H W _)

/-- the windowed zero-padded read of image `(n, c)` against `Y` is the image against the placement of `Y`:
    extract / place and im2col / col2im are this identity for particular `Y` (the coverage count goes through `Props.C16.coverage_mul`, `placeVal` of a constant family) -/
theorem window_adjoint (g : Geom) (x : NDArray R) (n c lh lw : Nat) (Y : Nat → Nat → Nat → Nat → R) :
    ∑ i ∈ range lh, ∑ j ∈ range lw, ∑ a ∈ range g.k.1, ∑ b ∈ range g.k.2,
        padGet g x 0 n c (i * g.s.1 + a * g.d.1) (j * g.s.2 + b * g.d.2) * Y i j a b
      = ∑ hh ∈ range g.h, ∑ ww ∈ range g.w, x.get [n, c, hh, ww] * placeVal g lh lw Y hh ww := by
  simp +singlePass only [↓padGet_eq_sum]
  exact adjoint_core4 (range lh) (range lw) (range g.k.1) (range g.k.2) (range g.h) (range g.w)
    (fun i j a b hh ww => i * g.s.1 + a * g.d.1 = hh + g.p.1 ∧ j * g.s.2 + b * g.d.2 = ww + g.p.2)
    (fun hh ww => x.get [n, c, hh, ww]) Y

theorem padGet_inside (g : Geom) (x : NDArray R) (pad : R) (n c hh ww : Nat) (hh' : hh < g.h) (hw' : ww < g.w) :
    padGet g x pad n c (hh + g.p.1) (ww + g.p.2) = x.get [n, c, hh, ww] := by
  unfold padGet
  rw [if_pos (by omega), Nat.add_sub_cancel, Nat.add_sub_cancel]

theorem col2im_adjoint (g : Geom) (x y : NDArray R) (hs : x.shape = [g.n, g.c, g.h, g.w])
    (lh lw : Nat) (ho : g.out = some (lh, lw)) :
    ∃ u v, im2colSpec g x 0 = some u ∧ col2imSpec g y = some v ∧ dot u y = dot x v := by
  obtain ⟨u, hu, hus⟩ : ∃ u, im2colSpec g x 0 = some u ∧ u.shape = [g.n, g.c * g.k.1 * g.k.2, lh * lw] :=
    ⟨_, im2colSpec_eq g x 0 lh lw ho, rfl⟩
  refine ⟨u, _, hu, col2imSpec_eq g y lh lw ho, ?_⟩
  rw [dot_eq_sum, hus, Nat.mul_assoc, dot_ofFn_right _ _ _ hs]
  simp +singlePass only [↓sum_allIdx_cons, ↓sum_allIdx_nil]
  refine Finset.sum_congr rfl (fun n hn => ?_)
  rw [sum_range_mul]
  refine Finset.sum_congr rfl (fun c hc => ?_)
  rw [sum_reindex4]
  refine Eq.trans ?_ (window_adjoint g x n c lh lw
    (fun i j a b => y.get [n, c * (g.k.1 * g.k.2) + (a * g.k.2 + b), i * lw + j]))
  refine Finset.sum_congr rfl (fun i hi => Finset.sum_congr rfl (fun j hj => Finset.sum_congr rfl
    (fun a ha => Finset.sum_congr rfl (fun b hb => ?_))))
  rw [im2colSpec_get_window g x u 0 lh lw ho hu (Finset.mem_range.1 hn) (Finset.mem_range.1 hc)
    (Finset.mem_range.1 hi) (Finset.mem_range.1 hj) (Finset.mem_range.1 ha) (Finset.mem_range.1 hb)]

end Col2im

end Proofs.ConvTools
