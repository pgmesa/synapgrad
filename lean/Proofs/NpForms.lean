import Proofs.Core
import SynapModel.Kernels.Basic
/-!
# Closed forms of the argument normalisers

Every partial function through which a kernel validates an argument (`normAxis`, `normAxes`, `swapaxes`, `moveaxis`,
`squeezeAxes`, `squeezeForward`, `resolveShape`, `sliceIndices`, `resolveIndex`, `unfoldDimCheck`)
is written here once in the form "accepted exactly when `C`, and then the value is `v`".  What acceptance
implies (the adjoint proofs) and what is accepted (the forward specifications) are both read off these.
The last part gives `dropAxes` / `setAxes` (and so `reduceShape` / `reduceIdx`) one form with an offset,
`maskFrom`, on which list inductions go through.

Conventions: `pyAxis n d` is Python's reading of a possibly negative axis `d` against rank `n`
(`d + n` when `d < 0`), `InRange n d` is `-n ≤ d < n`.
-/
namespace Proofs.SpecOps
open Synap Synap.Np Synap.Kernels

theorem spec_of_none {β : Type} {C : Prop} {P : β → Prop} (hc : ¬ C) :
    ((none : Option β).isSome ↔ C) ∧ ∀ y, (none : Option β) = some y → P y :=
  ⟨iff_of_false (fun h => by cases h) hc, fun y h => by cases h⟩

theorem spec_of_guard {β : Type} {o : Option β} {G P : Prop} [Decidable G] {Q : β → Prop}
    (h : (o.isSome ↔ P) ∧ ∀ y, o = some y → Q y) :
    ((if G then o else none).isSome ↔ G ∧ P) ∧ ∀ y, (if G then o else none) = some y → Q y := by
  by_cases hg : G
  · rw [if_pos hg]; exact ⟨h.1.trans (and_iff_right hg).symm, h.2⟩
  · rw [if_neg hg]; exact spec_of_none fun h => hg h.1

theorem spec_of_eq {β : Type} {o : Option β} {C : Prop} [Decidable C] {v : β}
    (h : o = if C then some v else none) {P : β → Prop} (hP : C → P v) :
    (o.isSome ↔ C) ∧ ∀ y, o = some y → P y := by
  subst h
  refine ⟨Option.isSome_ite, fun y hy => ?_⟩
  obtain ⟨hc, e⟩ := Option.ite_none_right_eq_some.1 hy
  exact Option.some.inj e ▸ hP hc

theorem bind_guard_eq {β γ : Type} {C : Prop} [Decidable C] (v : β) (B : β → Prop) [DecidablePred B]
    (G : β → γ) :
    ((if C then some v else none).bind fun a => if B a then some (G a) else none) =
      if C ∧ B v then some (G v) else none := by
  rw [ite_and]
  exact apply_ite (Option.bind · _) _ _ _

theorem two_guards_eq {β : Type} {A B : Prop} [Decidable A] [Decidable B] (o : Option β) :
    (if A then none else if B then none else o) = if ¬ A ∧ ¬ B then o else none := by
  rw [ite_and, ite_not, ite_not]

theorem mapM_eq_ite {β γ : Type} (f : β → Option γ) (P : β → Prop) [DecidablePred P] (g : β → γ)
    (hf : ∀ b, f b = if P b then some (g b) else none) (l : List β) :
    l.mapM f = if ∀ b ∈ l, P b then some (l.map g) else none := by
  induction l with
  | nil => exact (if_pos (List.forall_mem_nil _)).symm
  | cons b l ih =>
    rw [List.mapM_cons, hf b, ih]
    by_cases hb : P b
    · by_cases hl : ∀ b ∈ l, P b
      · rw [if_pos hb, if_pos hl, if_pos (List.forall_mem_cons.2 ⟨hb, hl⟩)]; rfl
      · rw [if_pos hb, if_neg hl, if_neg fun h => hl (List.forall_mem_cons.1 h).2]; rfl
    · rw [if_neg hb, if_neg fun h => hb (List.forall_mem_cons.1 h).1]; rfl

/-- Python's normalisation of a (possibly negative) axis against a rank -/
def pyAxis (n : Nat) (d : Int) : Nat := (if d < 0 then d + n else d).toNat

def InRange (n : Nat) (d : Int) : Prop := -(n : Int) ≤ d ∧ d < n

instance (n : Nat) (d : Int) : Decidable (InRange n d) := by unfold InRange; infer_instance

theorem normAxis_eq (n : Nat) (d : Int) : normAxis n d = if InRange n d then some (pyAxis n d) else none := by
  unfold normAxis pyAxis
  by_cases hr : InRange n d
  · rw [if_pos hr]
    obtain ⟨h1, h2⟩ := hr
    by_cases hd : d < 0
    · rw [if_neg fun c => Int.not_le.2 hd c.1, if_pos ⟨hd, h1⟩, if_pos hd]
    · rw [if_pos ⟨Int.not_lt.1 hd, h2⟩, if_neg hd]
  · have hn : (0 : Int) ≤ n := Int.natCast_nonneg n
    rw [if_neg hr, if_neg fun c => hr ⟨Int.le_trans (Int.neg_nonpos_of_nonneg hn) c.1, c.2⟩,
      if_neg fun c => hr ⟨c.2, Int.lt_of_lt_of_le c.1 hn⟩]

theorem normAxis_negSucc (n j : Nat) (h : j < n) : normAxis n (Int.negSucc j) = some (n - (j + 1)) := by
  unfold normAxis
  rw [if_neg (by omega), if_pos (by omega)]
  -- `-[j+1] + n` is `Int.subNatNat n (j + 1)` by definition
  exact congrArg some ((congrArg Int.toNat (Int.subNatNat_of_le h)).trans (Int.toNat_natCast _))

theorem not_inRange_zero (d : Int) : ¬ InRange 0 d := fun h => by
  unfold InRange at h
  omega

theorem pyAxis_lt (n : Nat) (d : Int) (h : InRange n d) : pyAxis n d < n := by
  obtain ⟨h1, h2⟩ := h
  unfold pyAxis
  split_ifs <;> omega

theorem pyAxis_zero (n : Nat) : pyAxis n 0 = 0 := rfl

theorem normAxis_lt {n : Nat} {ax : Int} {k : Nat} (h : normAxis n ax = some k) : k < n := by
  rw [normAxis_eq, Option.ite_none_right_eq_some, Option.some.injEq] at h
  exact h.2 ▸ pyAxis_lt n ax h.1

/-- the validation `np.swapaxes` and `np.moveaxis` share -/
theorem two_axes_eq {β : Type} (n : Nat) (d0 d1 : Int) (f : Nat → Nat → β) :
    ((normAxis n d0).bind fun a => (normAxis n d1).bind fun b => some (f a b)) =
      if InRange n d0 ∧ InRange n d1 then some (f (pyAxis n d0) (pyAxis n d1)) else none := by
  rw [normAxis_eq, normAxis_eq]
  by_cases h0 : InRange n d0 <;> by_cases h1 : InRange n d1 <;> simp [h0, h1]

/-- also the closed form of `transposeForward` / `transposeBackward`, which are `swapaxes` by definition -/
theorem swapaxes_eq {α : Type} [Zero α] (x : NDArray α) (a b : Int) :
    swapaxes x a b = if InRange x.shape.length a ∧ InRange x.shape.length b then
      some (transposeP x (swapPerm x.shape.length (pyAxis x.shape.length a) (pyAxis x.shape.length b))) else none :=
  two_axes_eq x.shape.length a b fun a b => transposeP x (swapPerm x.shape.length a b)

theorem moveaxis_eq {α : Type} [Zero α] (x : NDArray α) (s d : Int) :
    moveaxis x s d = if InRange x.shape.length s ∧ InRange x.shape.length d then
      some (transposeP x (moveaxisPerm x.shape.length (pyAxis x.shape.length s) (pyAxis x.shape.length d))) else none :=
  two_axes_eq x.shape.length s d fun s d => transposeP x (moveaxisPerm x.shape.length s d)

theorem mapM_normAxis_eq (n : Nat) (ds : List Int) :
    ds.mapM (normAxis n) = if ∀ d ∈ ds, InRange n d then some (ds.map (pyAxis n)) else none :=
  mapM_eq_ite _ _ _ (normAxis_eq n) ds

/-- `eraseDups` recurses on a filtered tail, hence the induction on a bound `n` of the length -/
theorem eraseDups_length (n : Nat) (l : List Nat) (h : l.length ≤ n) :
    l.eraseDups.length ≤ l.length ∧ (l.eraseDups.length = l.length ↔ l.Nodup) := by
  induction n generalizing l with
  | zero =>
    rw [List.eq_nil_of_length_eq_zero (Nat.le_zero.1 h)]
    exact ⟨Nat.le_refl _, iff_of_true rfl List.nodup_nil⟩
  | succ n ih =>
    cases l with
    | nil => exact ⟨Nat.le_refl _, iff_of_true rfl List.nodup_nil⟩
    | cons a as =>
      have h0 : as.length ≤ n := Nat.le_of_succ_le_succ h
      have h1 := List.length_filter_le (fun b => !b == a) as
      obtain ⟨h2, -⟩ := ih (as.filter fun b => !b == a) (h1.trans h0)
      obtain ⟨-, h3⟩ := ih as h0
      have h4 : (∀ b ∈ as, (!b == a) = true) ↔ a ∉ as := by
        simp only [Bool.not_eq_true', beq_eq_false_iff_ne]
        exact ⟨fun hp hm => hp a hm rfl, fun hn b hb e => hn (e ▸ hb)⟩
      rw [List.eraseDups_cons, List.nodup_cons, List.length_cons, List.length_cons, Nat.succ_le_succ_iff,
        Nat.succ_inj]
      refine ⟨h2.trans h1, fun he => ?_, fun ⟨hm, hn⟩ => ?_⟩
      -- the length is kept only if the filter dropped nothing, that is, `a` does not occur again
      · have hp := List.length_filter_eq_length_iff.1 (Nat.le_antisymm h1 (he ▸ h2))
        rw [List.filter_eq_self.2 hp] at he
        exact ⟨h4.1 hp, h3.1 he⟩
      · rw [List.filter_eq_self.2 (h4.2 hm), h3.2 hn]

theorem normAxes_eq (n : Nat) (axes : List Int) :
    normAxes n axes =
      if (∀ d ∈ axes, InRange n d) ∧ (axes.map (pyAxis n)).Nodup then some (axes.map (pyAxis n)) else none := by
  unfold normAxes
  simp only [mapM_normAxis_eq, Option.bind_eq_bind, bind_guard_eq, (eraseDups_length _ _ (Nat.le_refl _)).2]

theorem normAxes_iff (n : Nat) (axes : List Int) (ax : List Nat) :
    normAxes n axes = some ax ↔
      (∀ d ∈ axes, InRange n d) ∧ (axes.map (pyAxis n)).Nodup ∧ ax = axes.map (pyAxis n) := by
  rw [normAxes_eq, Option.ite_none_right_eq_some, Option.some.injEq, and_assoc, eq_comm]

theorem normAxes_inv {n : Nat} {axes : List Int} {ax : List Nat} (h : normAxes n axes = some ax) :
    ax.Nodup ∧ (∀ k ∈ ax, k < n) ∧ ax.length = axes.length := by
  obtain ⟨hr, hnd, rfl⟩ := (normAxes_iff n axes ax).1 h
  refine ⟨hnd, fun k hk => ?_, List.length_map _⟩
  obtain ⟨d, hd, rfl⟩ := List.mem_map.1 hk
  exact pyAxis_lt n d (hr d hd)

theorem squeezeAxes_eq {α : Type} [Zero α] (x : NDArray α) (axes : List Int) :
    squeezeAxes x axes =
      if (∀ d ∈ axes, InRange x.shape.length d) ∧ (axes.map (pyAxis x.shape.length)).Nodup ∧
          ∀ k ∈ axes.map (pyAxis x.shape.length), x.shape.getD k 0 = 1 then
        some (reshapeTo x (dropAxes x.shape (axes.map (pyAxis x.shape.length)))) else none := by
  unfold squeezeAxes
  simp only [normAxes_eq, Option.bind_eq_bind, Option.pure_def, bind_guard_eq, and_assoc, List.all_eq_true, beq_iff_eq]

/-- `squeeze_forward` with a tuple zips the named dims with their normalised values and filters on the latter -/
theorem filter_zip_map {β γ : Type} (f : β → γ) (q : γ → Bool) (ks : List β) :
    ((List.zip ks (ks.map f)).filter (fun p => q p.2)).map (·.1) = ks.filter (q ∘ f) := by
  induction ks with
  | nil => rfl
  | cons k ks ih =>
    rw [List.map_cons, List.zip_cons_cons]
    by_cases h : q (f k) = true
    · rw [List.filter_cons_of_pos (p := fun p : β × γ => q p.2) h, List.filter_cons_of_pos (p := q ∘ f) h,
        List.map_cons, ih]
    · rw [List.filter_cons_of_neg (p := fun p : β × γ => q p.2) h, List.filter_cons_of_neg (p := q ∘ f) h, ih]

theorem squeezeForward_one_eq {α : Type} [Zero α] (x : NDArray α) (k : Int) :
    squeezeForward x (.one k) = if x.shape.length = 0 ∨ InRange x.shape.length k then
      some (if x.shape.getD (pyAxis x.shape.length k) 0 = 1 then
        reshapeTo x (dropAxes x.shape [pyAxis x.shape.length k]) else x) else none := by
  unfold squeezeForward
  dsimp only
  by_cases hl : x.shape.length = 0
  · rw [if_pos hl, if_pos (Or.inl hl), if_neg (by rw [List.eq_nil_of_length_eq_zero hl]; exact Nat.zero_ne_one)]
  · rw [if_neg hl, normAxis_eq]
    by_cases hr : InRange x.shape.length k
    · rw [if_pos hr, if_pos (Or.inr hr)]
      simp only [Option.bind_eq_bind, Option.bind_some]
      by_cases h1 : x.shape.getD (pyAxis x.shape.length k) 0 = 1
      · rw [if_pos h1, if_pos h1, squeezeAxes_eq, if_pos ⟨List.forall_mem_singleton.2 hr,
          List.nodup_singleton _, List.forall_mem_singleton.2 h1⟩]
        rfl
      · rw [if_neg h1, if_neg h1]; rfl
    · rw [if_neg hr, if_neg (fun h => h.elim hl hr)]; rfl

theorem squeezeForward_many_eq {α : Type} [Zero α] (x : NDArray α) (ks : List Int) (hl : x.shape.length ≠ 0) :
    let sel := (ks.map (pyAxis x.shape.length)).filter (fun a => x.shape.getD a 0 == 1)
    squeezeForward x (.many ks) = if (∀ d ∈ ks, InRange x.shape.length d) ∧ sel.Nodup then
      some (if sel ≠ [] then reshapeTo x (dropAxes x.shape sel) else x) else none := by
  intro sel
  have hone : ∀ k ∈ sel, x.shape.getD k 0 = 1 := fun k hk => beq_iff_eq.1 (List.mem_filter.1 hk).2
  -- the kernel filters the *named* dims `ks` and normalises the survivors again
  have hsel : (ks.filter ((fun a => x.shape.getD a 0 == 1) ∘ pyAxis x.shape.length)).map (pyAxis x.shape.length) = sel :=
    List.filter_map.symm
  unfold squeezeForward
  dsimp only
  rw [if_neg hl, mapM_normAxis_eq]
  by_cases hr : ∀ d ∈ ks, InRange x.shape.length d
  · rw [if_pos hr, Option.bind_eq_bind, Option.bind_some, ← List.isEmpty_map (f := (·.1)),
      filter_zip_map (pyAxis x.shape.length) (fun a => x.shape.getD a 0 == 1), squeezeAxes_eq,
      ← List.isEmpty_map (f := pyAxis x.shape.length), hsel]
    by_cases h0 : sel = []
    · rw [if_pos (List.isEmpty_iff.2 h0), if_neg (not_not.2 h0), if_pos ⟨hr, h0 ▸ List.nodup_nil⟩]; rfl
    · rw [if_neg (fun h => h0 (List.isEmpty_iff.1 h)), if_pos h0]
      exact if_congr ⟨fun h => ⟨hr, h.2.1⟩, fun h => ⟨fun d hd => hr d (List.mem_filter.1 hd).1, h.2, hone⟩⟩ rfl rfl
  · rw [if_neg hr, if_neg (fun h => hr h.1)]; rfl

theorem resolveShape_eq (sz : Nat) (target : List Int) :
    resolveShape sz target =
      if (∀ t ∈ target, -1 ≤ t) ∧
        (((target.filter (fun t => decide (t < 0))).length = 0 ∧
            Shape.size ((target.filter (fun t => decide (t ≥ 0))).map Int.toNat) = sz) ∨
          ((target.filter (fun t => decide (t < 0))).length = 1 ∧
            Shape.size ((target.filter (fun t => decide (t ≥ 0))).map Int.toNat) ≠ 0 ∧
            Shape.size ((target.filter (fun t => decide (t ≥ 0))).map Int.toNat) ∣ sz))
      then some (target.map (fun t => if t < 0 then
        sz / Shape.size ((target.filter (fun t => decide (t ≥ 0))).map Int.toNat) else t.toNat))
      else none := by
  unfold resolveShape Shape.size
  simp only
  -- by cases along the `if`s of `resolveShape`; `p` is the product of the sizes given, `H` the number of negative entries (the holes)
  generalize List.foldr (· * ·) 1 ((target.filter (fun t => decide (t ≥ 0))).map Int.toNat) = p
  generalize hH : (target.filter (fun t => decide (t < 0))).length = H
  by_cases hany : (target.any fun x => decide (x < -1)) = true
  · rw [if_pos hany, if_neg]
    rintro ⟨hall, _⟩
    obtain ⟨t, ht, hlt⟩ := List.any_eq_true.1 hany
    exact absurd (hall t ht) (Int.not_le.2 (of_decide_eq_true hlt))
  · have hall : ∀ t ∈ target, -1 ≤ t := fun t ht =>
      Int.not_lt.1 fun hc => hany (List.any_eq_true.2 ⟨t, ht, decide_eq_true hc⟩)
    rw [if_neg hany]
    by_cases h0 : H = 0
    · have hnn : ∀ t ∈ target, ¬ t < 0 := by
        simpa only [decide_eq_true_eq] using List.filter_eq_nil_iff.1 (List.length_eq_zero_iff.1 (hH.trans h0))
      have hk : (target.filter (fun t => decide (t ≥ 0))).map Int.toNat
          = target.map (fun t => if t < 0 then sz / p else t.toNat) := by
        rw [List.filter_eq_self.2 fun t ht => decide_eq_true (Int.not_lt.1 (hnn t ht))]
        exact List.map_congr_left fun t ht => (if_neg (hnn t ht)).symm
      rw [if_pos h0, hk]
      by_cases hp : p = sz
      · rw [if_pos hp, if_pos ⟨hall, Or.inl ⟨h0, hp⟩⟩]
      · rw [if_neg hp, if_neg]
        rintro ⟨_, (⟨_, h⟩ | ⟨h, _⟩)⟩
        · exact hp h
        · exact Nat.zero_ne_one (h0.symm.trans h)
    · rw [if_neg h0]
      by_cases h1 : H = 1
      · rw [if_pos h1]
        by_cases hp : p = 0
        · rw [if_pos hp, if_neg]
          rintro ⟨_, (⟨h, _⟩ | ⟨_, h, _⟩)⟩
          · exact h0 h
          · exact h hp
        · rw [if_neg hp]
          by_cases hm : sz % p = 0
          · rw [if_pos hm, if_pos ⟨hall, Or.inr ⟨h1, hp, Nat.dvd_of_mod_eq_zero hm⟩⟩]
          · rw [if_neg hm, if_neg]
            rintro ⟨_, (⟨h, _⟩ | ⟨_, _, h⟩)⟩
            · exact h0 h
            · exact hm (Nat.mod_eq_zero_of_dvd h)
      · rw [if_neg h1, if_neg]
        rintro ⟨_, (⟨h, _⟩ | ⟨h, _⟩)⟩
        · exact h0 h
        · exact h1 h

/-- a slice bound as Python reads it: add `n` when negative, then clamp into `[lo, hi]` -/
def pyClamp (n : Nat) (v lo hi : Int) : Int :=
  let w := if v < 0 then v + n else v
  if w < lo then lo else if w > hi then hi else w

/-- first position `slice(start, stop, step).indices(n)` selects -/
def pyStart (n : Nat) (start : Option Int) (step : Int) : Int :=
  if step > 0 then (match start with | none => 0 | some v => pyClamp n v 0 n)
  else (match start with | none => (n : Int) - 1 | some v => pyClamp n v (-1) ((n : Int) - 1))

/-- the (exclusive) bound of `slice(start, stop, step).indices(n)` -/
def pyStop (n : Nat) (stop : Option Int) (step : Int) : Int :=
  if step > 0 then (match stop with | none => (n : Int) | some v => pyClamp n v 0 n)
  else (match stop with | none => -1 | some v => pyClamp n v (-1) ((n : Int) - 1))

/-- `len(range(start, stop, step))` for the resolved bounds -/
def pyCount (n : Nat) (start stop : Option Int) (step : Int) : Nat :=
  if step > 0 then
    (if pyStop n stop step > pyStart n start step then
      ((pyStop n stop step - pyStart n start step + step - 1) / step).toNat else 0)
  else
    (if pyStart n start step > pyStop n stop step then
      ((pyStart n start step - pyStop n stop step + (-step) - 1) / (-step)).toNat else 0)

theorem sliceIndices_eq (n : Nat) (start stop : Option Int) (step : Int) :
    sliceIndices n start stop step =
      if step = 0 then none else some (pyStart n start step, pyCount n start stop step) := by
  unfold sliceIndices pyCount
  -- once the sign of `step` is known both sides are the same `match`es on `start` and `stop`
  by_cases hp : step > 0
  · rw [if_pos hp, if_pos hp, show pyStart n start step = _ from if_pos hp, show pyStop n stop step = _ from if_pos hp]
    rfl
  · rw [if_neg hp, if_neg hp, show pyStart n start step = _ from if_neg hp, show pyStop n stop step = _ from if_neg hp]
    rfl

/-- `((hi - lo + step - 1) / step).toNat` is CPython's `len(range(lo, hi, step))` for `step > 0`; which `i` lie
    below it is all that is ever used of it -/
theorem rangeCount_lt_iff (lo hi step : Int) (hs : 0 < step) (i : Nat) :
    i < ((hi - lo + step - 1) / step).toNat ↔ lo + step * i < hi := by
  rw [Int.lt_toNat, Int.lt_iff_add_one_le, Int.le_ediv_iff_mul_le hs, Int.add_mul, Int.one_mul, Int.mul_comm]
  omega

theorem rangeCount_neg_lt_iff (lo hi step : Int) (hs : step < 0) (i : Nat) :
    i < ((lo - hi + (-step) - 1) / (-step)).toNat ↔ hi < lo + step * i := by
  rw [show lo - hi = -hi - -lo by omega, rangeCount_lt_iff (-lo) (-hi) (-step) (Int.neg_pos_of_neg hs) i, Int.neg_mul]
  omega

theorem so_pyClamp_bounds (n : Nat) (v lo hi : Int) (h : lo ≤ hi) :
    lo ≤ pyClamp n v lo hi ∧ pyClamp n v lo hi ≤ hi := by
  unfold pyClamp
  generalize (if v < 0 then v + (n : Int) else v) = w
  by_cases h1 : w < lo
  · rw [if_pos h1]; exact ⟨Int.le_refl lo, h⟩
  · rw [if_neg h1]
    by_cases h2 : w > hi
    · rw [if_pos h2]; exact ⟨h, Int.le_refl hi⟩
    · rw [if_neg h2]; exact ⟨Int.not_lt.1 h1, Int.not_lt.1 h2⟩

theorem pyCount_lt_iff_pos (n : Nat) (start stop : Option Int) (step : Int) (hs : 0 < step) (i : Nat) :
    i < pyCount n start stop step ↔ pyStart n start step + step * i < pyStop n stop step := by
  have h5 : 0 ≤ step * (i : Int) := Int.mul_nonneg (Int.le_of_lt hs) (Int.natCast_nonneg i)
  unfold pyCount
  rw [if_pos hs]
  by_cases h : pyStop n stop step > pyStart n start step
  · rw [if_pos h]; exact rangeCount_lt_iff _ _ _ hs i
  · rw [if_neg h]
    exact iff_of_false (Nat.not_lt_zero i) (Int.not_lt.2 ((Int.not_lt.1 h).trans (Int.le_add_of_nonneg_right h5)))

theorem pyCount_lt_iff_neg (n : Nat) (start stop : Option Int) (step : Int) (hs : step < 0) (i : Nat) :
    i < pyCount n start stop step ↔ pyStop n stop step < pyStart n start step + step * i := by
  have h5 := Int.mul_nonpos_of_nonpos_of_nonneg (Int.le_of_lt hs) (Int.natCast_nonneg i)
  unfold pyCount
  rw [if_neg (Int.lt_asymm hs)]
  by_cases h : pyStart n start step > pyStop n stop step
  · rw [if_pos h]; exact rangeCount_neg_lt_iff _ _ _ hs i
  · rw [if_neg h]
    exact iff_of_false (Nat.not_lt_zero i) (Int.not_lt.2 ((add_le_of_nonpos_right h5).trans (Int.not_lt.1 h)))

/-- every selected position lies inside the axis -/
theorem slice_positions_in_range (n : Nat) (start stop : Option Int) (step : Int) (hs : step ≠ 0)
    (i : Nat) (hi : i < pyCount n start stop step) :
    0 ≤ pyStart n start step + step * i ∧ pyStart n start step + step * i < n := by
  have hi0 : (0 : Int) ≤ i := Int.natCast_nonneg i
  by_cases hp : 0 < step
  · have h1 := (pyCount_lt_iff_pos n start stop step hp i).1 hi
    have hlo : 0 ≤ pyStart n start step := by
      unfold pyStart; rw [if_pos hp]
      cases start with
      | none => exact Int.le_refl 0
      | some v => exact (so_pyClamp_bounds n v 0 n (Int.natCast_nonneg n)).1
    have hhi : pyStop n stop step ≤ n := by
      unfold pyStop; rw [if_pos hp]
      cases stop with
      | none => exact Int.le_refl _
      | some v => exact (so_pyClamp_bounds n v 0 n (Int.natCast_nonneg n)).2
    exact ⟨Int.add_nonneg hlo (Int.mul_nonneg (Int.le_of_lt hp) hi0), Int.lt_of_lt_of_le h1 hhi⟩
  · have hn : step < 0 := lt_of_le_of_ne (Int.not_lt.1 hp) hs
    have h1 := (pyCount_lt_iff_neg n start stop step hn i).1 hi
    have hn1 : (-1 : Int) ≤ n - 1 := Int.sub_le_sub_right (Int.natCast_nonneg n) 1
    have hlo : pyStart n start step ≤ (n : Int) - 1 := by
      unfold pyStart; rw [if_neg hp]
      cases start with
      | none => exact Int.le_refl _
      | some v => exact (so_pyClamp_bounds n v (-1) ((n : Int) - 1) hn1).2
    have hhi : -1 ≤ pyStop n stop step := by
      unfold pyStop; rw [if_neg hp]
      cases stop with
      | none => exact Int.le_refl _
      | some v => exact (so_pyClamp_bounds n v (-1) ((n : Int) - 1) hn1).1
    have h5 := Int.mul_nonpos_of_nonpos_of_nonneg (Int.le_of_lt hn) hi0
    omega

def nEllipsis (sels : List Sel) : Nat := (sels.filter (· == .ellipsis)).length
def nLists (sels : List Sel) : Nat :=
  (sels.filter (fun x => match x with | .list _ => true | _ => false)).length
def nInts (sels : List Sel) : Nat :=
  (sels.filter (fun x => match x with | .int _ => true | _ => false)).length
/-- items that consume an operand axis (everything except `...` and `None`) -/
def nConsuming (sels : List Sel) : Nat :=
  (sels.filter (fun x => x != .ellipsis && x != .newaxis)).length

/-- what the model supports at all: at most one `...`, at most one integer list and then no plain
    int next to it, and no more axis-consuming items than the operand has axes -/
def SelGuard (ndim : Nat) (sels : List Sel) : Prop :=
  nEllipsis sels ≤ 1 ∧ nLists sels ≤ 1 ∧ ¬ (nLists sels = 1 ∧ 0 < nInts sels) ∧ nConsuming sels ≤ ndim

instance (ndim : Nat) (sels : List Sel) : Decidable (SelGuard ndim sels) := by
  unfold SelGuard; infer_instance

/-- the ellipsis stands for as many `:` as there are axes left over; without an ellipsis the
    missing trailing items are `:` -/
def expandSels (ndim : Nat) (sels : List Sel) : List Sel :=
  let fill := ndim - nConsuming sels
  if nEllipsis sels = 1 then
    sels.flatMap (fun x => if x == .ellipsis then List.replicate fill (.slice none none 1) else [x])
  else sels ++ List.replicate fill (.slice none none 1)

theorem nConsuming_append (l1 l2 : List Sel) : nConsuming (l1 ++ l2) = nConsuming l1 + nConsuming l2 := by
  unfold nConsuming
  rw [List.filter_append, List.length_append]

theorem nConsuming_replicate_slice (k : Nat) : nConsuming (List.replicate k (Sel.slice none none 1)) = k := by
  induction k with
  | zero => rfl
  | succ k ih => exact congrArg (· + 1) ih

theorem nConsuming_fill (fill : Nat) (l : List Sel) :
    nConsuming (l.flatMap fun x => if x == .ellipsis then List.replicate fill (.slice none none 1) else [x]) =
      nEllipsis l * fill + nConsuming l := by
  induction l with
  | nil => exact (Nat.zero_mul fill).symm
  | cons x l ih =>
    rw [List.flatMap_cons, nConsuming_append, ih]
    by_cases hx : x = Sel.ellipsis
    · subst hx
      rw [if_pos (beq_self_eq_true _), nConsuming_replicate_slice]
      show _ = (nEllipsis l + 1) * fill + nConsuming l
      rw [Nat.succ_mul, Nat.add_comm _ fill, Nat.add_assoc]
    · have h1 : nEllipsis (x :: l) = nEllipsis l :=
        congrArg List.length (List.filter_cons_of_neg (by rwa [beq_iff_eq]))
      rw [if_neg (by rwa [beq_iff_eq]), h1, Nat.add_left_comm]
      exact congrArg (_ + ·) (nConsuming_append [x] l).symm

theorem nConsuming_expandSels (ndim : Nat) (sels : List Sel) (h : nConsuming sels ≤ ndim) :
    nConsuming (expandSels ndim sels) = ndim := by
  by_cases h1 : nEllipsis sels = 1
  · rw [show expandSels ndim sels = _ from if_pos h1, nConsuming_fill, h1, Nat.one_mul, Nat.sub_add_cancel h]
  · rw [show expandSels ndim sels = _ from if_neg h1, nConsuming_append, nConsuming_replicate_slice,
      Nat.add_sub_cancel' h]

theorem resolveIndex_eq (s : Shape) (sels : List Sel) :
    resolveIndex s sels =
      if SelGuard s.length sels then resolveIndex.go (expandSels s.length sels) s else none := by
  unfold resolveIndex
  simp only [Option.bind_eq_bind, Option.bind_none, Bool.or_eq_true, Bool.and_eq_true, decide_eq_true_eq]
  rw [two_guards_eq]
  refine if_congr ?_ rfl rfl
  rw [not_or, not_or, Nat.not_lt, Nat.not_lt, Nat.not_lt, and_assoc, and_assoc]
  exact Iff.rfl

theorem resolveIndex_go_nil (sh : Shape) : resolveIndex.go [] sh = some [] := by rw [resolveIndex.go]

theorem resolveIndex_go_newaxis (r : List Sel) (sh : Shape) :
    resolveIndex.go (.newaxis :: r) sh = (resolveIndex.go r sh).map (RSel.new :: ·) := by rw [resolveIndex.go]

theorem resolveIndex_go_ellipsis (r : List Sel) (sh : Shape) : resolveIndex.go (.ellipsis :: r) sh = none := by
  simp [resolveIndex.go]

theorem resolveIndex_go_int (k : Int) (r : List Sel) (n : Nat) (sh : Shape) :
    resolveIndex.go (.int k :: r) (n :: sh) =
      if InRange n k then (resolveIndex.go r sh).map (RSel.fixed (pyAxis n k) :: ·) else none := by
  rw [resolveIndex.go, normAxis_eq]
  exact apply_ite (· >>= _) _ _ _

theorem resolveIndex_go_slice (a b : Option Int) (st : Int) (r : List Sel) (n : Nat) (sh : Shape) :
    resolveIndex.go (.slice a b st :: r) (n :: sh) =
      if st ≠ 0 then (resolveIndex.go r sh).map (RSel.range (pyStart n a st) (pyCount n a b st) st :: ·)
      else none := by
  rw [resolveIndex.go, sliceIndices_eq, ite_not]
  exact apply_ite (· >>= _) _ _ _

theorem resolveIndex_go_list (ks : List Int) (r : List Sel) (n : Nat) (sh : Shape) :
    resolveIndex.go (.list ks :: r) (n :: sh) =
      if ∀ k ∈ ks, InRange n k then (resolveIndex.go r sh).map (RSel.pick (ks.map (pyAxis n)) :: ·)
      else none := by
  rw [resolveIndex.go, mapM_normAxis_eq]
  exact apply_ite (· >>= _) _ _ _

theorem resolveIndex_go_no_axis (x : Sel) (r : List Sel) (hx : x ≠ .newaxis) : resolveIndex.go (x :: r) [] = none := by
  cases x with
  | newaxis => exact absurd rfl hx
  | _ => simp [resolveIndex.go]

theorem unfoldDimCheck_eq (s : Shape) (dimension size step : Int) :
    unfoldDimCheck s dimension size step =
      if InRange s.length dimension ∧ 0 < size ∧ 0 < step ∧ size.toNat ≤ s.getD (pyAxis s.length dimension) 0 then
        some (pyAxis s.length dimension, size.toNat, step.toNat,
          (s.getD (pyAxis s.length dimension) 0 - size.toNat) / step.toNat + 1)
      else none := by
  unfold unfoldDimCheck
  simp only [Option.bind_eq_bind, Option.bind_none, Bool.or_eq_true, decide_eq_true_eq, Option.pure_def,
    two_guards_eq, normAxis_eq]
  rw [bind_guard_eq]
  refine if_congr (and_congr_right' ?_) rfl rfl
  rw [not_or, Int.not_le, Int.not_le, Nat.not_lt, and_assoc]

end Proofs.SpecOps

/-! `reduceIdx` / `reduceShape` / `setAxes` / `dropAxes` look at `l.zipIdx`; an induction over the list needs the same
operation on a tail, whose first element sits at some position `m`: `maskFrom c m axes keep l` overwrites by `c`
(`keep`) or drops the entries of `l` whose position, counted from `m`, lies in `axes`. -/
namespace Proofs.Core
open Synap Synap.Np

def maskFrom {α : Type} (c : α) (m : Nat) (axes : List Nat) (keep : Bool) (l : List α) : List α :=
  if keep then (l.zipIdx m).map (fun p => if axes.contains p.2 then c else p.1)
  else ((l.zipIdx m).filter (fun p => !axes.contains p.2)).map (·.1)

theorem reduceIdx_eq_maskFrom (axes : List Nat) (keep : Bool) (i : Idx) :
    reduceIdx axes keep i = maskFrom 0 0 axes keep i := by cases keep <;> rfl

theorem reduceShape_eq_maskFrom (axes : List Nat) (keep : Bool) (s : Shape) :
    reduceShape s axes keep = maskFrom 1 0 axes keep s := by cases keep <;> rfl

theorem dropAxes_eq_maskFrom {α : Type} (l : List α) (axes : List Nat) (c : α) :
    dropAxes l axes = maskFrom c 0 axes false l := rfl

theorem maskFrom_nil {α : Type} (c : α) (m : Nat) (axes : List Nat) (keep : Bool) :
    maskFrom c m axes keep [] = [] := by cases keep <;> rfl

theorem maskFrom_cons {α : Type} (c : α) (m : Nat) (axes : List Nat) (keep : Bool) (a : α) (l : List α) :
    maskFrom c m axes keep (a :: l) =
      if m ∈ axes then (if keep then c :: maskFrom c (m + 1) axes keep l else maskFrom c (m + 1) axes keep l)
      else a :: maskFrom c (m + 1) axes keep l := by
  by_cases h : m ∈ axes <;> cases keep <;> simp [maskFrom, h]

theorem maskFrom_of_lt {α : Type} (c : α) (keep : Bool) (l : List α) {m : Nat} {axes : List Nat}
    (h : ∀ k ∈ axes, k < m) : maskFrom c m axes keep l = l := by
  induction l generalizing m with
  | nil => exact maskFrom_nil _ _ _ _
  | cons a l ih =>
    rw [maskFrom_cons, if_neg fun hm => Nat.lt_irrefl m (h m hm), ih fun k hk => Nat.lt_succ_of_lt (h k hk)]

theorem maskFrom_single {α : Type} (c : α) (m a : Nat) (l : List α) :
    maskFrom c m [m + a] false l = l.eraseIdx a := by
  induction l generalizing m a with
  | nil => exact maskFrom_nil _ _ _ _
  | cons x l ih =>
    rw [maskFrom_cons]
    cases a with
    | zero =>
      rw [if_pos (List.mem_singleton.2 (Nat.add_zero m).symm), if_neg Bool.false_ne_true,
        maskFrom_of_lt c false l fun k hk => List.mem_singleton.1 hk ▸ Nat.lt_succ_self m]
      rfl
    | succ a =>
      rw [if_neg fun h => absurd (List.mem_singleton.1 h) (Nat.ne_of_lt (Nat.lt_add_of_pos_right (Nat.succ_pos a))),
        show m + (a + 1) = m + 1 + a from Nat.add_right_comm m a 1, ih]
      rfl

theorem maskFrom_valid (axes : List Nat) (keep : Bool) (s : Shape) (i : Idx) (m : Nat)
    (h : validIdx s i) : validIdx (maskFrom 1 m axes keep s) (maskFrom 0 m axes keep i) := by
  rw [validIdx_iff_forall₂] at h
  induction h generalizing m with
  | nil => rw [maskFrom_nil, maskFrom_nil]; trivial
  | @cons x n i s hx _ ih =>
    rw [maskFrom_cons, maskFrom_cons]
    by_cases hm : m ∈ axes
    · rw [if_pos hm, if_pos hm]
      cases keep
      · exact ih _
      · exact ⟨Nat.one_pos, ih _⟩
    · rw [if_neg hm, if_neg hm]
      exact ⟨hx, ih _⟩

end Proofs.Core
